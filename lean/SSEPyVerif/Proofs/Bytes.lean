/-
  Byte strings: chunking (by `chunksFuel_induction`, the induction on the fuel), identifier blocks, xor, big-endian
  integers (`fromBE`/`toBE` are mutually inverse at a fixed width), splitting, hex digits.
-/
import SSEPyVerif.Model.Bytes
import SSEPyVerif.Proofs.Basic
import SSEPyVerif.Proofs.Except
namespace SSEPy
variable {α : Type}

theorem chunksFuel_induction {motive : List α → List (List α) → Prop} (n : Nat) (hn : 0 < n)
    (nil : motive [] [])
    (cons : ∀ l cs, 0 < l.length → motive (l.drop n) cs → motive l (l.take n :: cs))
    (fuel : Nat) : ∀ (l : List α), l.length ≤ fuel → motive l (chunksFuel fuel l n) := by
  induction fuel with
  | zero =>
    intro l h
    cases l with
    | nil => exact nil
    | cons _ _ => exact absurd h (Nat.not_succ_le_zero _)
  | succ f ih =>
    intro l h
    cases l with
    | nil => exact nil
    | cons a l =>
      refine cons (a :: l) _ (Nat.succ_pos _) (ih _ ?_)
      rw [List.length_drop]
      exact Nat.le_trans (Nat.sub_le_sub_left hn _) (Nat.le_of_succ_le_succ h)

theorem flatten_chunksFuel {n : Nat} (hn : 0 < n) {fuel : Nat} (l : List α) (hf : l.length ≤ fuel) :
    (chunksFuel fuel l n).flatten = l := by
  refine chunksFuel_induction (motive := fun l cs => cs.flatten = l) n hn rfl ?_ fuel l hf
  intro l cs _ ih
  rw [List.flatten_cons, ih, List.take_append_drop]

theorem chunksFuel_length {n : Nat} (hn : 0 < n) {fuel : Nat} (l : List α) (hf : l.length ≤ fuel) :
    (chunksFuel fuel l n).length = ceilDiv l.length n := by
  refine chunksFuel_induction (motive := fun l cs => cs.length = ceilDiv l.length n) n hn ?_ ?_ fuel l hf
  · exact (zero_ceilDiv hn).symm
  · intro l cs hl ih
    rw [List.length_cons, ih, List.length_drop, ← ceilDiv_step hl hn]

theorem chunksFuel_mem_length {n : Nat} (hn : 0 < n) {fuel : Nat} (l : List α) (hf : l.length ≤ fuel) :
    ∀ c ∈ chunksFuel fuel l n, c ≠ [] ∧ c.length ≤ n := by
  refine chunksFuel_induction (motive := fun _ cs => ∀ c ∈ cs, c ≠ [] ∧ c.length ≤ n) n hn ?_ ?_ fuel l hf
  · exact fun _ hc => nomatch hc
  · intro l cs hl ih
    have hlen : (l.take n).length = min n l.length := List.length_take
    have hpos : 0 < (l.take n).length := by rw [hlen]; exact Nat.lt_min.mpr ⟨hn, hl⟩
    have hle : (l.take n).length ≤ n := by rw [hlen]; exact Nat.min_le_left _ _
    exact List.forall_mem_cons.mpr ⟨⟨List.ne_nil_of_length_pos hpos, hle⟩, ih⟩

theorem chunksFuel_mem_length_of_mod_eq_zero {n : Nat} (hn : 0 < n) {fuel : Nat} (l : List α)
    (hf : l.length ≤ fuel) : l.length % n = 0 → ∀ c ∈ chunksFuel fuel l n, c.length = n := by
  refine chunksFuel_induction (motive := fun l cs => l.length % n = 0 → ∀ c ∈ cs, c.length = n) n hn ?_ ?_
    fuel l hf
  · exact fun _ _ hc => nomatch hc
  · intro l cs hl ih hm
    have hge : n ≤ l.length := Nat.le_of_dvd hl (Nat.dvd_of_mod_eq_zero hm)
    have hhead : (l.take n).length = n := by rw [List.length_take, Nat.min_eq_left hge]
    have hrest : (l.drop n).length % n = 0 := by rw [List.length_drop, ← Nat.mod_eq_sub_mod hge]; exact hm
    exact List.forall_mem_cons.mpr ⟨hhead, ih hrest⟩

theorem chunksFuel_flatten {n : Nat} (hn : 0 < n) :
    ∀ (bs : List (List α)), (∀ b ∈ bs, b.length = n) →
      ∀ fuel, bs.flatten.length ≤ fuel → chunksFuel fuel bs.flatten n = bs := by
  intro bs
  induction bs with
  | nil =>
    intro _ fuel _
    cases fuel <;> rfl
  | cons b rest ih =>
    intro hall fuel hf
    obtain ⟨hb, hrest⟩ := List.forall_mem_cons.mp hall
    rw [List.flatten_cons, List.length_append, hb] at hf
    cases fuel with
    | zero => omega
    | succ f =>
      have hne : (b ++ rest.flatten).isEmpty = false := by
        cases b with
        | nil => exact absurd hb (Nat.ne_of_lt hn)
        | cons _ _ => rfl
      rw [List.flatten_cons, chunksFuel, hne, if_neg Bool.false_ne_true, List.take_left' hb,
        List.drop_left' hb, ih hrest f (by omega)]

theorem chunks_inv {l : List α} {n : Nat} {cw : List (List α)} (h : chunks l n = .ok cw) :
    0 < n ∧ cw.flatten = l ∧ cw.length = ceilDiv l.length n ∧ ∀ c ∈ cw, c ≠ [] ∧ c.length ≤ n := by
  unfold chunks at h
  split at h
  · cases h
  · rename_i hn
    have hn0 : 0 < n := Nat.pos_of_ne_zero (by simpa using hn)
    cases h
    have hf : l.length ≤ l.length := Nat.le_refl _
    exact ⟨hn0, flatten_chunksFuel hn0 l hf, chunksFuel_length hn0 l hf, chunksFuel_mem_length hn0 l hf⟩

theorem chunks_eq (l : List α) {n : Nat} (hn : 0 < n) : chunks l n = .ok (chunksFuel l.length l n) := by
  simp [chunks, Nat.ne_of_gt hn]

theorem chunks_flatten_eq (n : Nat) (hn : 0 < n) (cs : List (List α)) (h : ∀ c ∈ cs, c.length = n) :
    chunks cs.flatten n = .ok cs := by
  rw [chunks_eq _ hn, chunksFuel_flatten hn cs h _ (Nat.le_refl _)]

theorem chunks_length_le {l : List α} {n : Nat} {cw : List (List α)} (h : chunks l n = .ok cw) :
    cw.length ≤ l.length := by
  obtain ⟨hn, -, hlen, -⟩ := chunks_inv h
  rw [hlen]
  exact (ceilDiv_le_iff hn).mpr (Nat.le_mul_of_pos_left _ hn)

theorem allZero_zeros (n : Nat) : allZero (zeros n) = true := by
  simp [allZero, zeros]

theorem allZero_iff (b : Bytes) : allZero b = true ↔ b = zeros b.length := by
  rw [allZero, zeros, List.all_eq_true, List.eq_replicate_iff]
  exact ⟨fun h => ⟨rfl, fun x hx => beq_iff_eq.mp (h x hx)⟩, fun h x hx => beq_iff_eq.mpr (h.2 x hx)⟩

theorem parseLoop_zeros (fuel pad sz : Nat) : parseLoop fuel (zeros pad) sz = [] := by
  cases fuel with
  | zero => rfl
  | succ f =>
    have hz : allZero ((zeros pad).take sz) = true := by
      rw [zeros, List.take_replicate]; exact allZero_zeros _
    simp only [parseLoop, hz, if_true, ite_self]

theorem parseLoop_cons {sz : Nat} (hsz : 0 < sz) {id : Bytes} (hid : id.length = sz) (hz : allZero id = false)
    (fuel : Nat) (rest : Bytes) : parseLoop (fuel + 1) (id ++ rest) sz = id :: parseLoop fuel rest sz := by
  have hne : (id ++ rest).isEmpty = false := by
    cases id with
    | nil => exact absurd hid (Nat.ne_of_lt hsz)
    | cons _ _ => rfl
  simp only [parseLoop, hne, List.take_left' hid, List.drop_left' hid, hz, Bool.false_eq_true, if_false]

theorem parseLoop_flatten_zeros (sz : Nat) (hsz : 0 < sz) :
    ∀ (ids : List Bytes) (pad fuel : Nat),
      (∀ id ∈ ids, id.length = sz ∧ allZero id = false) →
      (ids.flatten ++ zeros pad).length ≤ fuel →
      parseLoop fuel (ids.flatten ++ zeros pad) sz = ids := by
  intro ids
  induction ids with
  | nil => intro pad fuel _ _; exact parseLoop_zeros fuel pad sz
  | cons id rest ih =>
    intro pad fuel hids hfuel
    obtain ⟨hid, hrest⟩ := List.forall_mem_cons.mp hids
    rw [List.flatten_cons, List.append_assoc] at hfuel ⊢
    rw [List.length_append, hid.1] at hfuel
    cases fuel with
    | zero => omega
    | succ f => rw [parseLoop_cons hsz hid.1 hid.2, ih pad f hrest (by omega)]

theorem padBlock_eq (blk : Bytes) (bs : Nat) : padBlock blk bs = blk ++ zeros (bs - blk.length) := by
  unfold padBlock
  split
  · rfl
  · rename_i h
    rw [Nat.sub_eq_zero_of_le (Nat.le_of_not_lt h)]
    exact (List.append_nil _).symm

theorem partitionBlocksNat_eq_ok {ids : List Bytes} {cap size blockSize : Nat} {blocks : List Bytes} :
    partitionBlocksNat ids cap size blockSize = .ok blocks ↔
      cap * size ≤ (if blockSize = 0 then cap * size else blockSize) ∧ cap ≠ 0 ∧
      (chunksFuel ids.length ids cap).map
        (fun grp => padBlock grp.flatten (if blockSize = 0 then cap * size else blockSize)) = blocks := by
  simp only [partitionBlocksNat, ok_inv, Nat.not_lt, ne_eq]

theorem addLeadingZeros_length {x : Bytes} {n : Int} (h : (x.length : Int) ≤ n) :
    ((addLeadingZeros x n).length : Int) = n := by
  simp only [addLeadingZeros, zeros, List.length_append, List.length_replicate]
  omega

theorem xorPrefix_length : ∀ (a b : Bytes), (xorPrefix a b).length = a.length
  | a, [] => by simp [xorPrefix]
  | [], _ :: _ => by simp [xorPrefix]
  | x :: a, y :: b => by simp [xorPrefix, xorPrefix_length a b]

theorem xorPrefix_involution : ∀ (a b : Bytes), xorPrefix (xorPrefix a b) b = a
  | a, [] => by simp [xorPrefix]
  | [], _ :: _ => by simp [xorPrefix]
  | x :: a, y :: b => by
    simp only [xorPrefix, List.cons.injEq]
    refine ⟨?_, xorPrefix_involution a b⟩
    rw [UInt8.xor_assoc, UInt8.xor_self, UInt8.xor_zero]

theorem bytesXor_eq_ok {a b r : Bytes} : bytesXor a b = .ok r ↔ b.length ≤ a.length ∧ xorPrefix a b = r := by
  simp only [bytesXor, ok_inv, Nat.not_lt]

theorem toBE_length : ∀ (w x : Nat), (toBE w x).length = w
  | 0, _ => by simp [toBE]
  | w + 1, x => by simp [toBE, toBE_length w]

theorem intFromBytes_eq (b : Bytes) : intFromBytes b = fromBE b := rfl

theorem fromBE_append (a b : Bytes) : fromBE (a ++ b) = fromBE a * 256 ^ b.length + fromBE b := by
  unfold fromBE
  rw [List.foldl_append, foldl_radix 256 UInt8.toNat b]

theorem fromBE_cons (x : UInt8) (xs : Bytes) : fromBE (x :: xs) = x.toNat * 256 ^ xs.length + fromBE xs := by
  rw [fromBE, List.foldl_cons, Nat.zero_mul, Nat.zero_add, foldl_radix 256 UInt8.toNat xs, fromBE]

theorem fromBE_lt (b : Bytes) : fromBE b < 256 ^ b.length :=
  foldl_radix_lt 256 UInt8.toNat (fun d => d.toNat_lt) b

theorem fromBE_lt_of_le {b : Bytes} {n : Nat} (h : 8 * b.length ≤ n) : fromBE b < 2 ^ n :=
  Nat.lt_of_lt_of_le (by rw [Nat.pow_mul]; exact fromBE_lt b) (Nat.pow_le_pow_right (by decide) h)

theorem two_pow_le_256_pow {m k : Nat} (h : m ≤ 8 * k) : 2 ^ m ≤ 256 ^ k := by
  rw [show (256 : Nat) = 2 ^ 8 from rfl, ← Nat.pow_mul]
  exact Nat.pow_le_pow_right (by decide) h

theorem lt_256_pow_of_lt_two_pow {v n : Nat} (h : v < 2 ^ n) : v < 256 ^ ((n + 7) / 8) :=
  Nat.lt_of_lt_of_le h (two_pow_le_256_pow (by omega))

theorem fromBE_toBE : ∀ (w x : Nat), x < 256 ^ w → fromBE (toBE w x) = x
  | 0, x, h => by
    have hx : x = 0 := by simpa using h
    subst hx
    rfl
  | w + 1, x, h => by
    unfold toBE
    rw [fromBE_append]
    have hlt : x / 256 < 256 ^ w := by
      rw [Nat.pow_succ] at h
      exact Nat.div_lt_of_lt_mul (by rw [Nat.mul_comm]; exact h)
    rw [fromBE_toBE w (x / 256) hlt]
    simp only [List.length_cons, List.length_nil, Nat.zero_add, Nat.pow_one]
    have : fromBE [UInt8.ofNat (x % 256)] = x % 256 := by
      simp [fromBE, UInt8.toNat_ofNat']
    rw [this]
    exact Nat.div_add_mod' x 256

theorem toBE_fromBE : ∀ (w : Nat) (b : Bytes), b.length = w → toBE w (fromBE b) = b
  | 0, b, h => by rw [List.eq_nil_of_length_eq_zero h]; rfl
  | w + 1, b, h => by
    have hne : b ≠ [] := fun e => by rw [e] at h; cases h
    obtain ⟨init, d, rfl⟩ : ∃ init d, b = init ++ [d] :=
      ⟨b.dropLast, b.getLast hne, (List.dropLast_concat_getLast hne).symm⟩
    have hx : d.toNat < 256 := d.toNat_lt
    have hv : fromBE (init ++ [d]) = d.toNat + fromBE init * 256 := by
      rw [fromBE_append, Nat.add_comm]; simp [fromBE]
    rw [hv, toBE, Nat.add_mul_div_right _ _ (by decide), Nat.div_eq_of_lt hx, Nat.zero_add,
      Nat.add_mul_mod_self_right, Nat.mod_eq_of_lt hx, toBE_fromBE w init (by simpa using h)]
    simp

theorem fromBE_inj_same_len {a b : Bytes} (hl : a.length = b.length) (hv : fromBE a = fromBE b) : a = b := by
  rw [← toBE_fromBE _ a rfl, ← toBE_fromBE _ b rfl, hl, hv]

theorem fromBE_zeros (n : Nat) : fromBE (zeros n) = 0 := by
  induction n with
  | zero => rfl
  | succ m ih =>
    have : zeros (m + 1) = zeros m ++ [0] := by
      simp [zeros, List.replicate_succ']
    rw [this, fromBE_append, ih]; simp [fromBE]

theorem intToBytesNat_eq_ok {x w : Nat} {b : Bytes} : intToBytesNat x w = .ok b ↔ x < 256 ^ w ∧ toBE w x = b := by
  simp only [intToBytesNat, ok_inv, ge_iff_le, Nat.not_le]

theorem splitLoop_spec (x : Bytes) (lens : List Nat) : ∀ (c : Nat), c + lens.sum ≤ x.length →
    (splitLoop x lens c).flatten = (x.drop c).take lens.sum ∧
      (splitLoop x lens c).map List.length = lens := by
  induction lens with
  | nil => exact fun _ _ => ⟨rfl, rfl⟩
  | cons n rest ih =>
    intro c h
    rw [List.sum_cons, ← Nat.add_assoc] at h
    have ⟨ih1, ih2⟩ := ih (c + n) h
    have hcn : c + n ≤ x.length := Nat.le_trans (Nat.le_add_right _ _) h
    constructor
    · rw [splitLoop, List.flatten_cons, ih1, slice, List.sum_cons, List.drop_take, Nat.add_sub_cancel_left,
        List.take_add, List.drop_drop]
    · rw [splitLoop, List.map_cons, ih2, slice, List.length_drop, List.length_take,
        Nat.min_eq_left hcn, Nat.add_sub_cancel_left]

theorem splitBytes_eq_ok {x : Bytes} {lens : List Nat} {pieces : List Bytes} :
    splitBytes x lens = .ok pieces ↔ x.length = lens.sum ∧ splitLoop x lens 0 = pieces := by
  simp only [splitBytes, ok_inv, bne_iff_ne, ne_eq, Decidable.not_not]

theorem hexVal_inv {c : Char} {v : Nat} (h : hexVal c = some v) :
    v < 16 ∧ hexDigit v = lowerHexChar c := by
  have cle : ∀ a b : Char, a ≤ b ↔ a.toNat ≤ b.toNat := fun a b => by
    rw [Char.le_def, UInt32.le_iff_toNat_le]; rfl
  -- everything becomes a statement about the code point `n` of `c`
  simp only [hexVal, lowerHexChar, hexDigit, cle, show '0'.toNat = 48 from rfl, show '9'.toNat = 57 from rfl,
    show 'a'.toNat = 97 from rfl, show 'f'.toNat = 102 from rfl, show 'A'.toNat = 65 from rfl,
    show 'F'.toNat = 70 from rfl] at h ⊢
  have hc := Char.ofNat_toNat c
  generalize c.toNat = n at h hc ⊢
  subst hc
  split at h
  · cases h
    obtain ⟨hdigit, hupper, hback⟩ : n - 48 < 10 ∧ ¬ (65 ≤ n ∧ n ≤ 70) ∧ 48 + (n - 48) = n := by omega
    rw [if_pos hdigit, if_neg hupper, hback]
    exact ⟨by omega, rfl⟩
  split at h
  · cases h
    obtain ⟨hdigit, hupper, hback⟩ : ¬ n - 87 < 10 ∧ ¬ (65 ≤ n ∧ n ≤ 70) ∧ 87 + (n - 87) = n := by omega
    rw [if_neg hdigit, if_neg hupper, hback]
    exact ⟨by omega, rfl⟩
  split at h
  · cases h
    rename_i hA
    obtain ⟨hdigit, hback⟩ : ¬ n - 55 < 10 ∧ 87 + (n - 55) = n + 32 := by omega
    rw [if_neg hdigit, if_pos hA, hback]
    exact ⟨by omega, rfl⟩
  · cases h

theorem hexVal_hexDigit : ∀ n, n < 16 → hexVal (hexDigit n) = some n := by decide

end SSEPy
