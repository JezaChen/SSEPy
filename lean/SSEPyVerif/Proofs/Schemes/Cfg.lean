/-
  The two checks every configuration passes before its fields are read: `SSEConfig.check_param_positive`, called from
  `SSEConfig.__init__`, and `check_param_exist`, with which every `_parse_config` opens (the model's builders run the two in
  that order).
-/
import SSEPyVerif.Model.Schemes.Common
import SSEPyVerif.Proofs.List
namespace SSEPy.Sch

theorem checkParamPositive_cases (raw : RawCfg) :
    checkParamPositive raw = .ok () ∨ checkParamPositive raw = .error .valueError := by
  unfold checkParamPositive
  split
  · exact Or.inl rfl
  · exact Or.inr rfl

theorem checkParamExist_refuses (fields : List String) (raw : RawCfg) (f : String) (hf : f ∈ fields)
    (hm : raw.get f = none ∨ raw.get f = some (.int (-1))) : checkParamExist fields raw = .error .valueError := by
  unfold checkParamExist
  split
  · rename_i hall
    have := List.all_eq_true.mp hall f hf
    rcases hm with h | h <;> simp [h] at this
  · rfl

/-- every builder is `do checkParamPositive raw; checkParamExist fields raw; rest` by unfolding, so this applies to each of
    them with `rest` left to unification -/
theorem guarded_refused {α : Type} (fields : List String) (raw : RawCfg) (rest : Except Err α)
    (h : checkParamPositive raw = .error .valueError ∨ checkParamExist fields raw = .error .valueError) :
    (do checkParamPositive raw; checkParamExist fields raw; rest) = .error .valueError := by
  rcases checkParamPositive_cases raw with hp | hp
  · rcases h with h | h
    · rw [hp] at h; cases h
    · rw [hp, h]; rfl
  · rw [hp]; rfl

theorem checkParamPositive_refuses (raw : RawCfg) (f : String) (z : Int) (hm : (f, RawVal.int z) ∈ raw)
    (hf : f.startsWith "param_" = true) (hz : z ≤ 0) (hz1 : z ≠ -1) : checkParamPositive raw = .error .valueError := by
  unfold checkParamPositive
  split
  · rename_i hall
    have := List.all_eq_true.mp hall _ hm
    simp only [hf, Bool.not_true, Bool.false_or, Bool.or_eq_true, decide_eq_true_eq, beq_iff_eq] at this
    omega
  · rfl

theorem getInt_eq_ok {raw : RawCfg} {f : String} {z : Int} : getInt raw f = .ok z ↔ raw.get f = some (.int z) := by
  unfold getInt
  constructor
  · intro hg
    split at hg
    · rename_i z' hz
      cases hg
      exact hz
    · cases hg
  · intro hz
    rw [hz]

/-- `check_param_exist` refuses the marker -1 for "missing", `check_param_positive` every other value that is not positive.
    Callers close `hpre` by `decide +kernel`: the elaborator's `decide` does not unfold `String.startsWith`. -/
theorem param_pos (fields : List String) (raw : RawCfg) (f : String) (z : Int)
    (hp : checkParamPositive raw = .ok ()) (hc : checkParamExist fields raw = .ok ())
    (hpre : f.startsWith "param_" = true) (hf : f ∈ fields) (hg : getInt raw f = .ok z) : 0 < z := by
  have hget := getInt_eq_ok.mp hg
  refine Decidable.by_contra fun hn => ?_
  by_cases h1 : z = -1
  · subst h1
    rw [checkParamExist_refuses fields raw f hf (.inr hget)] at hc
    cases hc
  · rw [checkParamPositive_refuses raw f z (mem_of_lookup_eq_some hget) hpre (by omega) h1] at hp
    cases hp

end SSEPy.Sch
