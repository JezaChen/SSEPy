/-
  PiBas / PiPack: `Setup` returns on every tape that supplies one 16-byte IV per stored block (`Supplies`) when the key has
  the PRF's key length, every list packs, and the PRF's outputs have the length the PRF and the cipher take as keys
  (`Runnable`; for the two builders: `prf_f_output_length = param_lambda`).  With another length it does not return once some
  keyword has a block (`setup_loud`).  PiPtr runs the inner loop inside a setup that may fail by `.miss`, so the inner loop
  is also walked in that form (`encChunks_onlyMiss`).
-/
import SSEPyVerif.Proofs.Schemes.Chain
namespace SSEPy.Sch.Chain

variable (cfg : ChainCfg) (lv : Leaves)

/-- the tape starts with `n` draws of 16 bytes (the IVs of `n` encryptions) -/
def Supplies : Nat → Tape → Prop
  | 0, _ => True
  | n + 1, .bytes b :: t => b.length = 16 ∧ Supplies n t
  | _ + 1, _ => False

/-- the PRF takes messages of any length, and its outputs are used as its own keys (`K1`) and as cipher keys (`K2`).  It is
    `KeysFit` without the `lam` that names the common length; the chain itself never reads `lam`. -/
structure Runnable : Prop where
  msg : cfg.prfF.messageLength = LENGTH_UNLIMITED
  keyOut : cfg.prfF.keyLength = cfg.prfF.outputLength
  skeKey : cfg.ske.keyLength = cfg.prfF.outputLength
  outNonneg : 0 ≤ cfg.prfF.outputLength
  hash : cfg.prfF.hashLen = 20
  plain : PlainSke cfg.ske

variable {cfg} in
theorem _root_.SSEPy.Sch.KeysFit.chainRunnable {lam : Int} (hf : KeysFit cfg.prfF cfg.ske lam) : Runnable cfg :=
  { msg := hf.fMsg
    keyOut := hf.fKey.trans hf.fOut.symm
    skeKey := hf.skeKey.trans hf.fOut.symm
    outNonneg := hf.fOut ▸ Int.le_of_lt hf.lpos
    hash := hf.fHash
    plain := hf.plain }

/-- the number of blocks a keyword's list is packed into -/
def nBlocks (p : Bytes × List Bytes) : Nat :=
  match cfg.pack p.2 with
  | .ok chs => chs.length
  | .error _ => 0

theorem nBlocks_eq {p : Bytes × List Bytes} {chs : List Bytes} (h : cfg.pack p.2 = .ok chs) : nBlocks cfg p = chs.length := by
  rw [nBlocks, h]

/-- `m`: the draws the tape holds beyond this call's, handed on to the caller's next call (`encDb_returns` chains them) -/
theorem encChunks_returns (hr : Runnable cfg) (K1 K2 : Bytes) (c : Nat) (chs : List Bytes) (m : Nat)
    (t : Tape) (h1 : (K1.length : Int) = cfg.prfF.keyLength) (h2 : (K2.length : Int) = cfg.ske.keyLength)
    (hs : Supplies (chs.length + m) t) :
    ∃ ps t', encChunks cfg lv K1 K2 c chs t = .ok (ps, t') ∧ Supplies m t' := by
  induction chs generalizing c t with
  | nil => exact ⟨[], t, rfl, by simpa using hs⟩
  | cons ch rest ih =>
    obtain ⟨l, hl'⟩ := prf_accepts lv.hmac (msg := natToBytesMin c) (Or.inr h1) (Or.inl hr.msg)
    rw [List.length_cons, Nat.add_right_comm] at hs
    match t, hs with
    | .bytes b :: t1, ⟨hb, hs1⟩ =>
      obtain ⟨d, hd'⟩ := skeEncrypt_returns cfg.ske lv hr.plain K2 ch b t1 h2 hb
      obtain ⟨ps, t', hps, hsup⟩ := ih (c + 1) t1 hs1
      exact ⟨(l, d) :: ps, t', by simp only [encChunks, hl', hd', hps, ok_bind, pure_eq], hsup⟩

theorem encChunks_onlyMiss (hr : Runnable cfg) (K1 K2 : Bytes) (c : Nat) (chs : List Bytes) (t : Tape)
    (h1 : (K1.length : Int) = cfg.prfF.keyLength) (h2 : (K2.length : Int) = cfg.ske.keyLength) :
    OnlyMiss (encChunks cfg lv K1 K2 c chs t) := by
  induction chs generalizing c t with
  | nil => exact OnlyMiss.ok _
  | cons ch rest ih =>
    obtain ⟨l, hcall⟩ := prf_accepts lv.hmac (msg := natToBytesMin c) (Or.inr h1) (Or.inl hr.msg)
    unfold encChunks
    apply OnlyMiss.bind_ok hcall
    apply OnlyMiss.bind (skeEncrypt_onlyMiss cfg.ske lv hr.plain K2 ch t h2)
    intro ⟨d, t1⟩ _
    apply OnlyMiss.bind (ih (c + 1) t1)
    intro ⟨ps, t2⟩ _
    exact OnlyMiss.ok _

theorem encDb_returns (hH : HmacLen lv) (hr : Runnable cfg) (K : Bytes) (db : DB) (m : Nat) (t : Tape)
    (hK : (K.length : Int) = cfg.prfF.keyLength)
    (hpack : ∀ p ∈ db, ∃ chs, cfg.pack p.2 = .ok chs) (hs : Supplies ((db.map (nBlocks cfg)).sum + m) t) :
    ∃ L t', encDb cfg lv K db t = .ok (L, t') ∧ Supplies m t' := by
  induction db generalizing t with
  | nil => exact ⟨[], t, rfl, by simpa using hs⟩
  | cons p rest ih =>
    obtain ⟨w, ids⟩ := p
    obtain ⟨K1, hK1, l1⟩ := prf_returns hH hr.hash (msg := 1 :: w) (Or.inr hK) (Or.inl hr.msg)
    obtain ⟨K2, hK2, l2⟩ := prf_returns hH hr.hash (msg := 2 :: w) (Or.inr hK) (Or.inl hr.msg)
    obtain ⟨chs, hchs⟩ := hpack (w, ids) List.mem_cons_self
    simp only [List.map_cons, List.sum_cons, nBlocks_eq cfg hchs] at hs
    rw [Nat.add_assoc] at hs
    have hout := Int.toNat_of_nonneg hr.outNonneg
    obtain ⟨ps, t1, hps, hs1⟩ := encChunks_returns cfg lv hr K1 K2 0 chs _ t
      (by rw [l1, hr.keyOut, hout]) (by rw [l2, hr.skeKey, hout]) hs
    obtain ⟨qs, t2, hqs, hs2⟩ := ih t1 (fun p hp => hpack p (List.mem_cons_of_mem _ hp)) hs1
    exact ⟨ps ++ qs, t2, by simp only [encDb, token, hK1, hK2, hchs, hps, hqs, ok_bind, pure_eq], hs2⟩

theorem setup_returns (hH : HmacLen lv) (hr : Runnable cfg) (K : Bytes) (db : DB) (t : Tape)
    (hK : (K.length : Int) = cfg.prfF.keyLength)
    (hpack : ∀ p ∈ db, ∃ chs, cfg.pack p.2 = .ok chs) (hs : Supplies (db.map (nBlocks cfg)).sum t) :
    ∃ D t', setup cfg lv K db t = .ok (D, t') := by
  obtain ⟨L, t', hL, _⟩ := encDb_returns cfg lv hH hr K db 0 t hK hpack (by simpa using hs)
  exact ⟨buildTable L, t', by simp only [setup, hL, ok_bind, pure_eq]⟩

/-- Which error it is the statement leaves open: the PRF's ValueError at that keyword's first block unless something fails
    before it, and that may be the model's `.miss`. -/
theorem setup_loud (hH : HmacLen lv) (K : Bytes) (db : DB) (t : Tape) (hh : cfg.prfF.hashLen = 20)
    (hk : cfg.prfF.keyLength ≠ LENGTH_UNLIMITED)
    (hne : (cfg.prfF.outputLength.toNat : Int) ≠ cfg.prfF.keyLength)
    (hdb : ∃ p ∈ db, ∀ chs, cfg.pack p.2 = .ok chs → chs ≠ []) : ∃ e, setup cfg lv K db t = .error e := by
  cases hs : setup cfg lv K db t with
  | error e => exact ⟨e, rfl⟩
  | ok r =>
    -- a setup that returned called the PRF for the first block of `p` under `K1`, which is a PRF output
    obtain ⟨L, hL, _⟩ := setup_inv cfg lv hs
    obtain ⟨recs, f, _, _⟩ := encDb_inv cfg lv hL
    obtain ⟨p, hp, hblocks⟩ := hdb
    obtain ⟨⟨K1, K2, chs, ps⟩, _, k⟩ := f.of_mem_left hp
    have hch : Chunks cfg lv t K1 K2 0 chs ps := k.chunks
    cases chs with
    | nil => exact absurd rfl (hblocks [] k.pack)
    | cons ch rest =>
      cases hch with
      | cons h1 _ =>
        rcases prf_key h1.1 with h | h
        · exact absurd h hk
        · rw [(token_inv hH hh k.token).1] at h
          exact absurd h hne

end SSEPy.Sch.Chain

namespace SSEPy.Sch
open SSEPy.Sch.Chain

theorem PiPack.cfgBuild_runnable {raw : RawCfg} {cfg : ChainCfg} (hcfg : PiPack.cfgBuild raw = .ok cfg)
    (hout : getInt raw "prf_f_output_length" = getInt raw "param_lambda") : Runnable cfg ∧ cfg.prfF.keyLength = cfg.lambda := by
  obtain ⟨B, sz, out, p⟩ := PiPack.cfgBuild_inv hcfg
  cases p.getLambda.symm.trans (hout.symm.trans p.getOut)
  have hk : KeysFit cfg.prfF cfg.ske cfg.lambda := keysFit_of_new p.ske p.prfF
  exact ⟨hk.chainRunnable, hk.fKey⟩

theorem PiPack.setup_returns {raw : RawCfg} {cfg : ChainCfg} (hcfg : PiPack.cfgBuild raw = .ok cfg)
    (hout : getInt raw "prf_f_output_length" = getInt raw "param_lambda") {lv : Leaves} (hH : HmacLen lv)
    {K : Bytes} (hK : (K.length : Int) = cfg.lambda) {db : DB} {t : Tape} (hs : Supplies (db.map (nBlocks cfg)).sum t) :
    ∃ D t', setup cfg lv K db t = .ok (D, t') := by
  obtain ⟨hr, hkl⟩ := PiPack.cfgBuild_runnable hcfg hout
  obtain ⟨B, sz, out, p⟩ := PiPack.cfgBuild_inv hcfg
  exact Chain.setup_returns cfg lv hH hr K db t (hK.trans hkl.symm)
    (fun q _ => (PiPack.pack_returns hcfg p.getB p.getIdSize q.2).imp fun _ h => h.1) hs

end SSEPy.Sch
