/-
  DP17: what `Search` finds.  A probe of chunk `k` of a stored keyword returns, and what it returns contains the chunk
  (`stored_probe`); so a search that returns, returns every identifier of the keyword (`search_finds_all`).  It returns, and
  exactly them (`search_present`), if the probes beyond the keyword's last chunk miss the hash table and `ProbesClean`: trial
  decryption of foreign or dummy cells under `F_k3(w)` does not end in `0^λ`, a fact about AES outputs that the leaf laws do
  not give (`probesClean_of_wrongKey` reduces it to that fact by the classification of the cells).
-/
import SSEPyVerif.Proofs.Schemes.DP17Index
namespace SSEPy.Sch.DP17
open SSEPy.Sch

variable (cfg : DP17Cfg) (lv : Leaves)

/-- `plaintext[-λ:] == zeros(λ)` and `plaintext[:-λ]`: how `Search` takes a plaintext `id ‖ 0^λ` apart -/
theorem ends_in_zeros {p id : Bytes} {n : Nat} :
    (p.drop (p.length - n) == zeros n) = true ∧ id = p.take (p.length - n) ↔ p = id ++ zeros n := by
  constructor
  · rintro ⟨hz, rfl⟩
    rw [← eq_of_beq hz, List.take_append_drop]
  · rintro rfl
    simp [zeros]

theorem mem_scanBucket {etag : Bytes} {cs : List Bytes} {id : Bytes} :
    id ∈ scanBucket cfg lv etag cs ↔ ∃ c ∈ cs, cfg.rnd.decrypt lv.D etag c = .ok (id ++ zeros cfg.lambda.toNat) := by
  induction cs with
  | nil => simp [scanBucket]
  | cons e rest ih =>
    simp only [scanBucket, List.mem_cons, exists_eq_or_imp, ← ih]
    split
    · rename_i p hp
      rw [hp, Except.ok.injEq, ← ends_in_zeros]
      split
      · rename_i hz
        simp only [List.mem_cons, hz, true_and]
      · rename_i hz
        simp only [hz, Bool.false_eq_true, false_and, false_or]
    · rename_i hp
      simp only [hp, reduceCtorEq, false_or]

theorem lookupBucket_eq_ok {edb : DP17EDB} {i off : Nat} {bucket : Bytes} :
    lookupBucket edb i off = .ok bucket ↔ ∃ arr, edb.A.lookup (i : Int) = some arr ∧ arr[off]? = some bucket := by
  unfold lookupBucket
  cases edb.A.lookup (i : Int) with
  | none => simp only [reduceCtorEq, false_and, exists_false]
  | some arr =>
    simp only [Option.some.injEq, exists_eq_left']
    cases arr[off]? with
    | none => simp only [reduceCtorEq]
    | some b => simp only [Except.ok.injEq, Option.some.injEq]

theorem searchOne_eq_ok {edb : DP17EDB} {vtag etag : Bytes} {count : Nat} {key : Bytes} {here : List Bytes} :
    searchOne cfg lv edb vtag etag count key = .ok here ↔ (edb.HT.get key = none ∧ here = []) ∨
      ∃ ev i off arr bucket es, edb.HT.get key = some ev ∧ decodeVal cfg lv vtag count ev = .ok (i, off) ∧
        edb.A.lookup (i : Int) = some arr ∧ arr[off]? = some bucket ∧ chunks bucket cfg.cipherLen = .ok es ∧
        here = scanBucket cfg lv etag es := by
  unfold searchOne
  cases edb.HT.get key with
  | none => simp only [Except.ok.injEq, true_and, reduceCtorEq, false_and, exists_false, or_false, eq_comm]
  | some ev =>
    simp only [reduceCtorEq, false_and, false_or, Option.some.injEq, exists_and_left, exists_eq_left', ok_inv,
      lookupBucket_eq_ok]
    constructor
    · rintro ⟨⟨i, off⟩, hd, bucket, ⟨arr, harr, hb⟩, es, hes, e⟩
      exact ⟨i, off, hd, arr, harr, bucket, hb, es, hes, e.symm⟩
    · rintro ⟨i, off, hd, arr, harr, bucket, hb, es, hes, e⟩
      exact ⟨(i, off), hd, bucket, ⟨arr, harr, hb⟩, es, hes, e.symm⟩

theorem searchCounts_mem {edb : DP17EDB} {tag vtag etag : Bytes} {more start : Nat} {res : List Bytes}
    (h : searchCounts cfg lv edb tag vtag etag more start = .ok res) {c : Nat} (hc1 : start ≤ c) (hc2 : c < start + more)
    {key : Bytes} {here : List Bytes} (hkey : hashH cfg lv (tag ++ natToBytesMin c) = .ok key)
    (hone : searchOne cfg lv edb vtag etag c key = .ok here) : ∀ id ∈ here, id ∈ res := by
  induction more generalizing start res with
  | zero => omega
  | succ m ih =>
    simp only [searchCounts, ok_inv] at h
    obtain ⟨key0, hk0, here0, hh0, rest, hrest, rfl⟩ := h
    intro id hid
    by_cases hs : c = start
    · subst hs
      rw [hkey] at hk0; cases hk0
      rw [hone] at hh0; cases hh0
      exact List.mem_append_left _ hid
    · exact List.mem_append_right _ (ih hrest (by omega) (by omega) id hid)

theorem searchCounts_returns (edb : DP17EDB) (tag vtag etag : Bytes) (P : Bytes → Prop) (more start : Nat)
    (h : ∀ c, start ≤ c → c < start + more → ∃ key here, hashH cfg lv (tag ++ natToBytesMin c) = .ok key ∧
      searchOne cfg lv edb vtag etag c key = .ok here ∧ ∀ id ∈ here, P id) :
    ∃ res, searchCounts cfg lv edb tag vtag etag more start = .ok res ∧ ∀ id ∈ res, P id := by
  induction more generalizing start with
  | zero => exact ⟨[], rfl, fun id hid => nomatch hid⟩
  | succ m ih =>
    obtain ⟨key, here, hk, hone, hP⟩ := h start (by omega) (by omega)
    obtain ⟨rest, hrest, hPr⟩ := ih (start + 1) (fun c h1 h2 => h c (by omega) (by omega))
    have hrun : searchCounts cfg lv edb tag vtag etag (m + 1) start = .ok (here ++ rest) := by
      simp only [searchCounts, ok_inv]
      exact ⟨key, hk, here, hone, rest, hrest, rfl⟩
    refine ⟨here ++ rest, hrun, fun id hid => ?_⟩
    rcases List.mem_append.mp hid with hid | hid
    · exact hP id hid
    · exact hPr id hid

theorem searchCounts_absent (edb : DP17EDB) (tag vtag etag : Bytes) (more start : Nat)
    (h : ∀ c, start ≤ c → c < start + more → ∃ key, hashH cfg lv (tag ++ natToBytesMin c) = .ok key ∧ edb.HT.get key = none) :
    searchCounts cfg lv edb tag vtag etag more start = .ok [] := by
  -- every probe returns the empty list, so every identifier of the result satisfies `False`
  have hall : ∀ c, start ≤ c → c < start + more → ∃ key here, hashH cfg lv (tag ++ natToBytesMin c) = .ok key ∧
      searchOne cfg lv edb vtag etag c key = .ok here ∧ ∀ id ∈ here, False := by
    intro c h1 h2
    obtain ⟨key, hk, hn⟩ := h c h1 h2
    exact ⟨key, [], hk, (searchOne_eq_ok cfg lv).mpr (.inl ⟨hn, rfl⟩), fun _ hid => nomatch hid⟩
  obtain ⟨res, hres, hnone⟩ := searchCounts_returns cfg lv edb tag vtag etag (fun _ => False) more start hall
  rw [hres, List.eq_nil_iff_forall_not_mem.mpr fun id hid => hnone id hid]

theorem search_three (edb : DP17EDB) (tag vtag etag : Bytes) :
    search cfg lv edb [tag, vtag, etag] = searchCounts cfg lv edb tag vtag etag cfg.L.toNat 1 := rfl

theorem token_inv {k1 k2 k3 w : Bytes} {tk : List Bytes} (h : token cfg lv [k1, k2, k3] w = .ok tk) :
    ∃ tag vtag etag, cfg.prfF.call lv.hmac k1 w = .ok tag ∧ cfg.prfF.call lv.hmac k2 w = .ok vtag ∧
      cfg.prfF.call lv.hmac k3 w = .ok etag ∧ tk = [tag, vtag, etag] := by
  simp only [token, ok_inv] at h
  obtain ⟨tag, h1, vtag, h2, etag, h3, h⟩ := h
  exact ⟨tag, vtag, etag, h1, h2, h3, h.symm⟩

/-- one run of `setup` and one keyword `w` it stored with the list `ids`: the hypotheses of
    `C01.DP17.search_stored_partial` -/
structure Stored (raw : RawCfg) (k1 k2 k3 : Bytes) (db : DB) (t t' : Tape) (edb : DP17EDB) (w : Bytes) (ids : List Bytes) :
    Prop where
  built : DP17.cfgBuild raw = .ok cfg
  laws : LeafLaws lv
  setupOk : setup cfg lv [k1, k2, k3] db t = .ok (edb, t')
  keys : (db.map (·.1)).Nodup
  idLen : ∀ p ∈ db, ∀ id ∈ p.2, (id.length : Int) = cfg.idSize
  keyInj : KeyInj cfg lv k1 (levelsList cfg db.total) db
  perms : PermsGood t
  fresh : ∀ b, Draw.bytes b ∈ t → ∀ w ids c, (w, ids) ∈ db → 1 ≤ c → c ≤ nChunks cfg (levelsList cfg db.total) ids →
    htKey cfg lv k1 w c ≠ .ok b
  mem : (w, ids) ∈ db

section stored
variable {raw : RawCfg} {k1 k2 k3 : Bytes} {db : DB} {t t' : Tape} {edb : DP17EDB} {w : Bytes} {ids : List Bytes}

theorem stored_probe (st : Stored cfg lv raw k1 k2 k3 db t t' edb w ids) {tag vtag etag : Bytes}
    (htk : token cfg lv [k1, k2, k3] w = .ok [tag, vtag, etag]) :
    ∃ cw : List (List Bytes), nChunks cfg (levelsList cfg db.total) ids = cw.length ∧ cw.length ≤ cfg.L.toNat ∧
      cw.flatten = ids ∧ ∀ k c, cw[k]? = some c → ∃ key here, hashH cfg lv (tag ++ natToBytesMin (k + 1)) = .ok key ∧
        searchOne cfg lv edb vtag etag (k + 1) key = .ok here ∧ ∀ id ∈ c, id ∈ here := by
  obtain ⟨hplain, hlam, hclen⟩ := cfgBuild_accepted cfg raw st.built
  have hpos : 0 < cfg.cipherLen := hclen ▸ Nat.add_pos_left (by decide) _
  have hde : Decrypts cfg.rnd lv := st.laws.decrypts hplain
  obtain ⟨ls0, ls1, HT, t1, t2, run⟩ := setup_inv cfg lv st.setupOk
  obtain ⟨i, cw, hfa, hcw, hall⟩ := encDb_stored cfg lv run.enc run.wfl st.keys st.keyInj w ids st.mem
  obtain ⟨_, hflat, hcwlen, hcs⟩ := chunks_inv hcw
  have hnc := nChunks_eq_length cfg hfa hcw
  obtain ⟨tag', vtag', etag', htag, hvtag, hetag, e⟩ := token_inv cfg lv htk
  cases e
  refine ⟨cw, hnc, ?_, hflat, fun k c hk => ?_⟩
  · rw [hcwlen]; exact (findAdjacent_inv cfg hfa).2
  have hkl : k < cw.length := (List.getElem?_eq_some_iff.mp hk).1
  obtain ⟨x, key, v, a1, a2, a3, a4⟩ := hall k c hk
  -- no filler key is this chunk's key, so the fillers leave its entry alone
  have hfill : ∀ b, Draw.bytes b ∈ t1 → b ≠ key := fun b hb e =>
    st.fresh b (run.suffix1.mem hb) w ids (k + 1) st.mem (Nat.succ_pos k) (hnc ▸ hkl) (e ▸ a1)
  have hHT' : edb.HT.get key = some v := by
    rw [Table.get, fillHT_lookup run.fill hfill]
    exact a3
  have hdec := decode_htVal cfg lv a2 hvtag
  obtain ⟨tag', htag', a1⟩ := (htKey_eq_ok cfg lv).mp a1
  cases htag.symm.trans htag'
  -- `finishLevels_inArray` speaks of one posting; the probe is the same for every identifier of the chunk: one `here`
  have hone : ∀ id ∈ c, ∃ here, searchOne cfg lv edb vtag etag (k + 1) key = .ok here ∧ id ∈ here := by
    intro id hid
    obtain ⟨arr, cs, d1, d2, d3, etag', c0, d4, d5, d6⟩ :=
      finishLevels_inArray cfg lv hde st.laws.enc_len _ hclen run.finish (st.perms.suffix run.suffix2)
        (run.idLen hlam st.idLen) (i : Int) x w id (a4 id hid) (findAdjacent_inv cfg hfa).1
    rw [hetag] at d4; cases d4
    have hcut : chunks cs.flatten cfg.cipherLen = .ok cs := chunks_flatten_eq cfg.cipherLen hpos cs d3
    have hprobe : searchOne cfg lv edb vtag etag (k + 1) key = .ok (scanBucket cfg lv etag cs) :=
      (searchOne_eq_ok cfg lv).mpr (.inr ⟨v, i, x, arr, _, cs, hHT', hdec, d1, d2, hcut, rfl⟩)
    exact ⟨_, hprobe, (mem_scanBucket cfg lv).mpr ⟨c0, d5, d6⟩⟩
  obtain ⟨id0, hid0⟩ := List.exists_mem_of_ne_nil _ (hcs c (List.mem_of_getElem? hk)).1
  obtain ⟨here, hhere, _⟩ := hone id0 hid0
  refine ⟨key, here, a1, hhere, fun id hid => ?_⟩
  obtain ⟨here', hh', hin⟩ := hone id hid
  rw [hhere] at hh'; cases hh'
  exact hin

theorem search_finds_all (st : Stored cfg lv raw k1 k2 k3 db t t' edb w ids) {tk : List Bytes}
    (htk : token cfg lv [k1, k2, k3] w = .ok tk)
    {res : List Bytes} (hres : search cfg lv edb tk = .ok res) : ∀ id ∈ ids, id ∈ res := by
  obtain ⟨tag, vtag, etag, _, _, _, rfl⟩ := token_inv cfg lv htk
  obtain ⟨cw, _, hL, hflat, hall⟩ := stored_probe cfg lv st htk
  intro id hid
  rw [← hflat] at hid
  obtain ⟨c, hc, hidc⟩ := List.mem_flatten.mp hid
  obtain ⟨k, hk⟩ := List.mem_iff_getElem?.mp hc
  have hkl : k < cw.length := (List.getElem?_eq_some_iff.mp hk).1
  obtain ⟨key, here, h1, h2, h3⟩ := hall k c hk
  -- chunk `k` is probe `k + 1` of the `L` probes
  rw [search_three] at hres
  have hlast : k + 1 < 1 + cfg.L.toNat := by omega
  exact searchCounts_mem cfg lv hres (Nat.succ_pos k) hlast h1 h2 id (h3 id hidc)

theorem probes_return (st : Stored cfg lv raw k1 k2 k3 db t t' edb w ids) {tag vtag etag : Bytes}
    (htk : token cfg lv [k1, k2, k3] w = .ok [tag, vtag, etag]) :
    nChunks cfg (levelsList cfg db.total) ids ≤ cfg.L.toNat ∧
      ∀ c, 1 ≤ c → c ≤ nChunks cfg (levelsList cfg db.total) ids → ∃ key here,
        hashH cfg lv (tag ++ natToBytesMin c) = .ok key ∧ searchOne cfg lv edb vtag etag c key = .ok here := by
  obtain ⟨cw, hnc, hL, _, hall⟩ := stored_probe cfg lv st htk
  refine ⟨hnc ▸ hL, fun c hc1 hc2 => ?_⟩
  have hk : c - 1 < cw.length := by omega
  obtain ⟨key, here, h1, h2, _⟩ := hall (c - 1) _ (List.getElem?_eq_getElem hk)
  rw [Nat.sub_add_cancel hc1] at h1 h2
  exact ⟨key, here, h1, h2⟩

/-- whatever a probe of this token yields belongs to the keyword's list -/
def ProbesClean (edb : DP17EDB) (tag vtag etag : Bytes) (ids : List Bytes) : Prop :=
  ∀ c key here, 1 ≤ c → c ≤ cfg.L.toNat → hashH cfg lv (tag ++ natToBytesMin c) = .ok key →
    searchOne cfg lv edb vtag etag c key = .ok here → ∀ id ∈ here, id ∈ ids

theorem search_present (st : Stored cfg lv raw k1 k2 k3 db t t' edb w ids) {tag vtag etag : Bytes}
    (htk : token cfg lv [k1, k2, k3] w = .ok [tag, vtag, etag])
    (hclean : ProbesClean cfg lv edb tag vtag etag ids)
    (hbeyond : ∀ c, nChunks cfg (levelsList cfg db.total) ids < c → c ≤ cfg.L.toNat →
      ∃ key, hashH cfg lv (tag ++ natToBytesMin c) = .ok key ∧ edb.HT.get key = none) :
    ∃ res, search cfg lv edb [tag, vtag, etag] = .ok res ∧ ∀ id, id ∈ res ↔ id ∈ ids := by
  obtain ⟨hnL, hprobe⟩ := probes_return cfg lv st htk
  -- up to the keyword's last chunk a probe returns and is clean; beyond it the table has no entry
  have hall : ∀ c, 1 ≤ c → c < 1 + cfg.L.toNat → ∃ key here, hashH cfg lv (tag ++ natToBytesMin c) = .ok key ∧
      searchOne cfg lv edb vtag etag c key = .ok here ∧ ∀ id ∈ here, id ∈ ids := by
    intro c h1 h2
    have hcL : c ≤ cfg.L.toNat := by omega
    by_cases hc : c ≤ nChunks cfg (levelsList cfg db.total) ids
    · obtain ⟨key, here, hk, hone⟩ := hprobe c h1 hc
      exact ⟨key, here, hk, hone, hclean c key here h1 hcL hk hone⟩
    · obtain ⟨key, hk, hnone⟩ := hbeyond c (by omega) hcL
      exact ⟨key, [], hk, (searchOne_eq_ok cfg lv).mpr (.inl ⟨hnone, rfl⟩), fun id hid => nomatch hid⟩
  obtain ⟨res, hres, hsub⟩ := searchCounts_returns cfg lv edb tag vtag etag (fun id => id ∈ ids) cfg.L.toNat 1 hall
  have hres' : search cfg lv edb [tag, vtag, etag] = .ok res := (search_three cfg lv edb tag vtag etag).trans hres
  exact ⟨res, hres', fun id => ⟨hsub id, search_finds_all cfg lv st htk hres' id⟩⟩

end stored

/-- trial decryption under `etag` accepts the cell: it decrypts, and the plaintext ends in `0^λ` -/
def Accepts (etag c : Bytes) : Prop :=
  ∃ p, cfg.rnd.decrypt lv.D etag c = .ok p ∧ (p.drop (p.length - cfg.lambda.toNat) == zeros cfg.lambda.toNat) = true

/-- the cryptographic assumption in its textbook form: under this keyword's tag, trial decryption accepts neither a random
    dummy cell of the run nor the ciphertext, under any IV, of another keyword's posting -/
def WrongKeyRejected (k3 : Bytes) (db : DB) (t : Tape) (w etag : Bytes) : Prop :=
  (∀ c, Draw.bytes c ∈ t → c.length = cfg.cipherLen → ¬ Accepts cfg lv etag c) ∧
  ∀ c w' id' etag' iv, w' ≠ w → (∃ ids', (w', ids') ∈ db ∧ id' ∈ ids') → cfg.prfF.call lv.hmac k3 w' = .ok etag' →
    cfg.rnd.encrypt lv.E etag' iv (id' ++ zeros cfg.lambda.toNat) = .ok c → ¬ Accepts cfg lv etag c

theorem probesClean_of_wrongKey {raw : RawCfg} (hcfg : DP17.cfgBuild raw = .ok cfg) (hl : LeafLaws lv)
    {k1 k2 k3 : Bytes} {db : DB} {t t' : Tape} {edb : DP17EDB}
    (hs : setup cfg lv [k1, k2, k3] db t = .ok (edb, t')) (hkeys : (db.map (·.1)).Nodup)
    (hidl : ∀ p ∈ db, ∀ id ∈ p.2, (id.length : Int) = cfg.idSize)
    {w : Bytes} {ids : List Bytes} (hm : (w, ids) ∈ db) {tag vtag etag : Bytes}
    (htk : token cfg lv [k1, k2, k3] w = .ok [tag, vtag, etag])
    (hwk : WrongKeyRejected cfg lv k3 db t w etag) : ProbesClean cfg lv edb tag vtag etag ids := by
  obtain ⟨hplain, hlam, hclen⟩ := cfgBuild_accepted cfg raw hcfg
  have hcells := setup_cells cfg lv raw hcfg hl k1 k2 k3 db t t' edb hs hidl
  obtain ⟨_, _, etag0, _, _, hetag, e⟩ := token_inv cfg lv htk
  cases e
  intro c key here _ _ _ hone id hid
  rcases (searchOne_eq_ok cfg lv).mp hone with ⟨_, rfl⟩ | ⟨ev, i, off, arr, bucket, es, _, _, harr, hb0, hes, rfl⟩
  · cases hid
  -- the key is in the table: the bucket its entry names is cut into the cells `setup_cells` classifies
  obtain ⟨cs, hflat, hlens, hclass⟩ := hcells _ (mem_of_lookup_eq_some harr) bucket (List.mem_of_getElem? hb0)
  have hpos : 0 < cfg.cipherLen := by
    rw [hclen]
    omega
  rw [hflat, chunks_flatten_eq cfg.cipherLen hpos cs hlens] at hes
  cases hes
  obtain ⟨cell, hcell, hp⟩ := (mem_scanBucket cfg lv).mp hid
  have hacc : Accepts cfg lv etag cell := ⟨_, hp, (ends_in_zeros.mpr rfl).1⟩
  rcases hclass cell hcell with hd | ⟨w', id', etag', iv, ⟨ids', hdb', hid'⟩, het', hiv, hivl, henc⟩
  · exact absurd hacc (hwk.1 cell hd (hlens cell hcell))
  by_cases hw : w' = w
  -- a cell of this keyword decrypts to its own identifier
  · subst hw
    rw [hetag] at het'
    cases het'
    rw [(Enc.intro hivl hiv henc).dec (hl.decrypts hplain)] at hp
    cases nodup_keys_unique db hkeys _ _ _ hdb' hm
    rw [← List.append_cancel_right (Except.ok.inj hp)]
    exact hid'
  · exact absurd hacc (hwk.2 cell w' id' etag' iv hw ⟨ids', hdb', hid'⟩ het' henc)

end SSEPy.Sch.DP17
