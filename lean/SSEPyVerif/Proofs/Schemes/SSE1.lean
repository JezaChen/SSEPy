/-
  SSE-1, what is read off `Built`: every keyword's nodes hang as a linked list at ψ_K1 of its counter segment in the array
  (`ListAt`, `Built.listAt`; placement, C06), `search` unmasks the table entry and walks that list, and the lengths of cells and entries are
  functions of the configuration (C05).  Provenance (C04) is read in `Props/C04` off `Built.cell_cases` and
  `Built.entry_cases` of `SSE1Setup`.
-/
import SSEPyVerif.Proofs.Schemes.SSE1Setup
namespace SSEPy.Sch.SSE1
open SSEPy.Sch

variable (cfg : SSE1Cfg) (lv : Leaves)

def psiVal (K1 : Bytes) (ctr : Nat) : Option Nat :=
  match psi cfg lv K1 ctr with
  | .ok a => some a.value
  | .error _ => none

variable {cfg lv} in
theorem psiVal_of_ok {K1 : Bytes} {ctr : Nat} {a : Bitset} (h : psi cfg lv K1 ctr = .ok a) : psiVal cfg lv K1 ctr = some a.value := by
  rw [psiVal, h]

/-- node `ctr` holds `id ‖ nk ‖ na` encrypted under `key` -/
def NodeAt (A : List Bytes) (K1 : Bytes) (ctr : Nat) (key id nk na : Bytes) : Prop :=
  ∃ i c, psiVal cfg lv K1 ctr = some i ∧ A[i]? = some c ∧ cfg.ske1.decrypt lv.D key c = .ok (id ++ nk ++ na) ∧
    id.length = cfg.idSize.toNat ∧ nk.length = cfg.k.toNat ∧ na.length = cfg.log2sBytes

/-- the list `ids` hangs at counter `ctr` under `key` -/
def ListAt (A : List Bytes) (K1 : Bytes) : Nat → Bytes → List Bytes → Prop
  | _, _, [] => False
  | ctr, key, [id] => NodeAt cfg lv A K1 ctr key id (zeros cfg.k.toNat) (zeros cfg.log2sBytes)
  | ctr, key, id :: id2 :: rest =>
    ∃ nk nb i2, psiVal cfg lv K1 (ctr + 1) = some i2 ∧ intFromBytes nb = i2 ∧ allZero nk = false ∧
      NodeAt cfg lv A K1 ctr key id nk nb ∧ ListAt A K1 (ctr + 1) nk (id2 :: rest)

/-- no key-sized draw is all zero (`walk` ends a list at a node whose next key and next address are both zero) -/
def KeysGood (t : Tape) : Prop := ∀ b, Draw.bytes b ∈ t → b.length = cfg.k.toNat → allZero b = false

theorem KeysGood.suffix {t t' : Tape} (h : KeysGood cfg t) (hs : Suffix t' t) : KeysGood cfg t' :=
  fun b hb hl => h b (hs.mem hb) hl

/-- table labels of different keywords are different (π is a permutation) -/
def GammaInj (K3 : Bytes) (db : DB) : Prop :=
  ∀ w ids w' ids' g, (w, ids) ∈ db → (w', ids') ∈ db → piBytes cfg lv K3 w = .ok g → piBytes cfg lv K3 w' = .ok g → w = w'

/-- length of one encrypted node: the IV, then `id ‖ key ‖ address` padded to whole 16-byte blocks -/
def nodeLen : Nat := 16 + 16 * ((cfg.idSize.toNat + cfg.k.toNat + cfg.log2sBytes) / 16 + 1)

/-- every cell is still the placeholder `b'\x00'` or a ciphertext stamped with a draw of the run -/
def CellsStamped (t : Tape) (A : List Bytes) : Prop := ∀ c ∈ A, c = [0] ∨ Stamped t c

theorem CellsStamped.mono {t t' : Tape} {A : List Bytes} (hs : Suffix t' t) (h : CellsStamped t' A) : CellsStamped t A := by
  intro c hc
  rcases h c hc with hzero | hst
  · exact .inl hzero
  · exact .inr (hst.mono hs)

variable {cfg lv} {K1 K2 K3 : Bytes} {ids : List Bytes} {key lastKey : Bytes} {ctr : Nat} {ns : List Node} {e : Kw} {es : List Kw}
  {db : DB} {t t' : Tape} {edb : SSE1EDB} {size : Nat} {kvs : List (Bytes × Bytes)} {t1 t3 : Tape}

theorem listAt_singleton {A : List Bytes} {id : Bytes} :
    ListAt cfg lv A K1 ctr key [id] ↔ NodeAt cfg lv A K1 ctr key id (zeros cfg.k.toNat) (zeros cfg.log2sBytes) :=
  Iff.rfl

theorem listAt_cons_cons {A : List Bytes} {id id2 : Bytes} {rest : List Bytes} :
    ListAt cfg lv A K1 ctr key (id :: id2 :: rest) ↔
      ∃ nk nb i2, psiVal cfg lv K1 (ctr + 1) = some i2 ∧ intFromBytes nb = i2 ∧ allZero nk = false ∧
        NodeAt cfg lv A K1 ctr key id nk nb ∧ ListAt cfg lv A K1 (ctr + 1) nk (id2 :: rest) :=
  Iff.rfl

def Addrs (cfg : SSE1Cfg) (lv : Leaves) (K1 : Bytes) : Nat → List Node → Prop
  | _, [] => True
  | c, n :: ns => psi cfg lv K1 c = .ok n.addr ∧ Addrs cfg lv K1 (c + 1) ns

theorem Addrs.append {c : Nat} {ms : List Node} (h1 : Addrs cfg lv K1 c ns)
    (h2 : Addrs cfg lv K1 (c + ns.length) ms) : Addrs cfg lv K1 c (ns ++ ms) := by
  induction ns generalizing c with
  | nil => simpa using h2
  | cons n ns ih => exact ⟨h1.1, ih h1.2 (by simpa [Nat.add_assoc, Nat.add_comm 1] using h2)⟩

theorem Inner.addrs (h : Inner cfg lv K1 ids key ctr ns lastKey) : Addrs cfg lv K1 ctr ns := by
  induction h with
  | nil => trivial
  | last => trivial
  | cons link _ ih => exact ⟨link.addr, ih⟩

theorem addrs_flatMap (hes : ∀ e ∈ es, KwOK cfg lv K1 K2 K3 e) (hc : Ctrs ctr es) :
    Addrs cfg lv K1 ctr (es.flatMap Kw.nodes) := by
  induction es generalizing ctr with
  | nil => trivial
  | cons e es ih =>
    have he := hes e List.mem_cons_self
    obtain ⟨rfl, hc⟩ := hc
    rw [List.flatMap_cons]
    refine Addrs.append (Addrs.append he.inner.addrs ⟨he.addr, trivial⟩) ?_
    rw [he.length]
    exact ih (fun e' h' => hes e' (List.mem_cons_of_mem _ h')) hc

theorem Addrs.counter {c : Nat} (h : Addrs cfg lv K1 c ns) :
    ∀ n ∈ ns, ∃ j, c ≤ j ∧ psi cfg lv K1 j = .ok n.addr := by
  induction ns generalizing c with
  | nil => simp
  | cons m ms ih =>
    intro n hn
    rcases List.mem_cons.mp hn with rfl | hn
    · exact ⟨c, Nat.le_refl _, h.1⟩
    · obtain ⟨j, j1, j2⟩ := ih h.2 n hn
      exact ⟨j, by omega, j2⟩

theorem Addrs.nodup (hh : HmacLen lv) (h2 : 2 ≤ cfg.log2s) {c : Nat} (h : Addrs cfg lv K1 c ns) : (ns.map (·.addr.value)).Nodup := by
  induction ns generalizing c with
  | nil => exact List.nodup_nil
  | cons n ns ih =>
    refine List.nodup_cons.mpr ⟨fun hmem => ?_, ih h.2⟩
    obtain ⟨m, hm, hv⟩ := List.mem_map.mp hmem
    obtain ⟨j, j1, j2⟩ := h.2.counter m hm
    have := psi_inj hh h2 h.1 j2 hv.symm
    omega

/-- in the array `Setup` returns every node is in its cell: the nodes went to pairwise different cells, and the fillers
    replace placeholders only -/
theorem Built.cell (hb : Built cfg lv K1 K2 K3 db t t' edb es size kvs t1 t3)
    (hh : HmacLen lv) (h2 : 2 ≤ cfg.log2s) : ∀ e ∈ es, ∀ n ∈ e.nodes, edb.A[n.addr.value]? = some n.c := by
  intro e he n hn
  have hnd := (addrs_flatMap hb.kw hb.ctrs).nodup hh h2
  have hlt : ∀ n ∈ es.flatMap Kw.nodes, n.addr.value < (List.replicate cfg.s.toNat ([0] : Bytes)).length := by
    rw [List.length_replicate]
    exact hb.lt
  obtain ⟨c', hc', hf⟩ := hb.A.getElem? (store_get hnd hlt n (List.mem_flatMap.mpr ⟨e, he, hn⟩))
  cases hf with
  | kept => exact hc'
  | drawn hz => exact absurd hz (((hb.kw e he).nodeEnc n hn).ne_singleton 0)

/-- a stored list has at most `param_s` identifiers: its nodes lie in pairwise different cells of the array -/
theorem Built.ids_le (hb : Built cfg lv K1 K2 K3 db t t' edb es size kvs t1 t3) (hh : HmacLen lv) (h2 : 2 ≤ cfg.log2s)
    (he : e ∈ es) : e.ids.length ≤ cfg.s.toNat := by
  have hnd := (addrs_flatMap hb.kw hb.ctrs).nodup hh h2
  have hsub : (e.nodes.map (·.addr.value)).Sublist ((es.flatMap Kw.nodes).map (·.addr.value)) := by
    rw [List.flatMap_def]
    exact (List.sublist_flatten_of_mem (List.mem_map_of_mem he)).map _
  have := (hnd.sublist hsub).length_le_of_subset (l₂ := List.range cfg.s.toNat) fun x hx => by
    obtain ⟨n, hn, rfl⟩ := List.mem_map.mp hx
    exact List.mem_range.mpr (hb.lt n (List.mem_flatMap.mpr ⟨e, he, hn⟩))
  rwa [List.length_map, List.length_range, (hb.kw e he).length] at this

section
variable (hl : LeafLaws lv) (hu : Usable cfg) (h2 : 2 ≤ cfg.log2s)
include hl hu h2

theorem Inner.listAt (h : Inner cfg lv K1 ids key ctr ns lastKey) {A : List Bytes} (hA : ∀ n ∈ ns, A[n.addr.value]? = some n.c)
    (hnz : ∀ n ∈ ns, allZero n.nk = false) (hidl : ∀ x ∈ ids, x.length = cfg.idSize.toNat)
    {lastId : Bytes} (hlid : ids.getLast? = some lastId) (hlast : ListAt cfg lv A K1 (ctr + ns.length) lastKey [lastId]) :
    ListAt cfg lv A K1 ctr key ids := by
  induction h with
  | nil => cases hlid
  | last => cases hlid; exact hlast
  | @cons id id2 rest key ctr n ns lastKey link _ ih =>
    obtain ⟨nxt, hnxt, hnb⟩ := link.next
    have hdec : cfg.ske1.decrypt lv.D key n.c = .ok (id ++ n.nk ++ n.na) :=
      hl.decrypts hu.plain _ _ _ _ link.iv (link.key_eq ▸ link.enc)
    have hnaLen : n.na.length = cfg.log2sBytes := psi_bytes_len hl.hmac_len h2 hu.lb hnxt hnb
    have hnode : NodeAt cfg lv A K1 ctr key id n.nk n.na :=
      ⟨n.addr.value, n.c, psiVal_of_ok link.addr, hA n List.mem_cons_self, hdec, hidl _ List.mem_cons_self, link.nk,
        hnaLen⟩
    have hlid' : (id2 :: rest).getLast? = some lastId := by
      simpa using hlid
    have hlast' : ListAt cfg lv A K1 (ctr + 1 + ns.length) lastKey [lastId] := by
      simpa [Nat.add_assoc, Nat.add_comm 1] using hlast
    have htail : ListAt cfg lv A K1 (ctr + 1) n.nk (id2 :: rest) :=
      ih (fun m hm => hA m (List.mem_cons_of_mem _ hm)) (fun m hm => hnz m (List.mem_cons_of_mem _ hm))
        (fun x hx => hidl x (List.mem_cons_of_mem _ hx)) hlid' hlast'
    exact listAt_cons_cons.mpr
      ⟨n.nk, n.na, nxt.value, psiVal_of_ok hnxt, (Bitset.toBytes_inv hnb).1, hnz n List.mem_cons_self, hnode, htail⟩

theorem KwOK.listAt (h : KwOK cfg lv K1 K2 K3 e) {A : List Bytes}
    (hA : ∀ n ∈ e.nodes, A[n.addr.value]? = some n.c) (hnz : ∀ n ∈ e.inner, allZero n.nk = false)
    (hidl : ∀ x ∈ e.ids, x.length = cfg.idSize.toNat) : ListAt cfg lv A K1 e.ctr e.k0 e.ids := by
  have hdec : cfg.ske1.decrypt lv.D e.last.key e.last.c =
      .ok (e.last.id ++ zeros cfg.k.toNat ++ zeros cfg.log2sBytes) := by
    have := hl.decrypts hu.plain _ _ _ _ h.iv h.enc
    rwa [h.nk, h.na] at this
  have hlast : NodeAt cfg lv A K1 (e.ctr + e.inner.length) e.last.key e.last.id (zeros cfg.k.toNat)
      (zeros cfg.log2sBytes) :=
    ⟨e.last.addr.value, e.last.c, psiVal_of_ok h.addr, hA _ (Kw.mem_nodes.mpr (.inr rfl)), hdec,
      hidl _ (List.mem_of_getLast? h.lastId), List.length_replicate, List.length_replicate⟩
  exact h.inner.listAt hl hu h2 (fun n hn => hA n (Kw.mem_nodes.mpr (.inl hn))) hnz hidl h.lastId
    (listAt_singleton.mpr hlast)

theorem Built.listAt (hb : Built cfg lv K1 K2 K3 db t t' edb es size kvs t1 t3)
    (hk : KeysGood cfg t) (hidl : ∀ p ∈ db, ∀ x ∈ p.2, x.length = cfg.idSize.toNat) :
    ∀ e ∈ es, ListAt cfg lv edb.A K1 e.ctr e.k0 e.ids := by
  intro e he
  refine (hb.kw e he).listAt hl hu h2 (hb.cell hl.hmac_len h2 e he) (fun n hn => ?_)
    (hidl _ (hb.mem_db he))
  obtain ⟨_, _, _, link⟩ := (hb.kw e he).inner.node n hn
  exact hk n.nk (hb.mem_tape he (Kw.mem_draws hn).1) link.nk

end

theorem Built.labels_nodup (hb : Built cfg lv K1 K2 K3 db t t' edb es size kvs t1 t3) (hkeys : (db.map (·.1)).Nodup)
    (hg : GammaInj cfg lv K3 db) : (es.map (·.gamma)).Nodup := by
  rw [hb.db, List.map_map] at hkeys
  have hw : es.Pairwise fun a b => a.w ≠ b.w := List.pairwise_map.mp hkeys
  -- `hg`: one label on two keywords of `db` makes them one keyword
  have hgam : ∀ a ∈ es, ∀ b ∈ es, a.gamma = b.gamma → a.w = b.w := by
    intro a ha b hb' hab
    have hga := (hb.kw a ha).gamma
    have hgb := (hb.kw b hb').gamma
    rw [← hab] at hgb
    exact hg a.w a.ids b.w b.ids a.gamma (hb.mem_db ha) (hb.mem_db hb') hga hgb
  exact List.pairwise_map.mpr (hw.imp_of_mem fun ha hb' hne hab => hne (hgam _ ha _ hb' hab))

/-- the entry of a stored keyword is the only one under its label: the other keywords have other labels, and no filler is
    under it (`hfill`; a later filler under that label would shadow the entry) -/
theorem Built.lookup (hb : Built cfg lv K1 K2 K3 db t t' edb es size kvs t1 t3) (hkeys : (db.map (·.1)).Nodup)
    (hg : GammaInj cfg lv K3 db) (he : e ∈ es) (hfill : ∀ p ∈ kvs, p.1 ≠ e.gamma) : edb.T.get e.gamma = some e.theta := by
  have hnd : ((es.map fun e => (e.gamma, e.theta)).reverse.map (·.1)).Nodup := by
    rw [List.map_reverse, List.map_map]
    exact (List.reverse_perm _).nodup_iff.mpr (hb.labels_nodup hkeys hg)
  have hfill' : e.gamma ∉ kvs.reverse.map (·.1) := fun hmem => by
    obtain ⟨p, hp, hpe⟩ := List.mem_map.mp hmem
    exact hfill p (List.mem_reverse.mp hp) hpe
  rw [Table.get, hb.T, tableOfList, foldl_tinsert_lookup, List.reverse_append, List.lookup_append,
    lookup_eq_none_of_not_mem hfill', Option.none_or,
    lookup_eq_some_of_mem hnd (List.mem_reverse.mpr (List.mem_map.mpr ⟨e, he, rfl⟩))]

variable (cfg lv) in
/-- the table label determines the keyword: π can be inverted, and big-endian decoding is injective on keywords without a
    leading NUL byte -/
theorem gammaInj_of_noLeadingNul (hh : HmacLen lv) (hl8 : 2 ≤ (cfg.l * 8).toNat) (K3 : Bytes) (db : DB) (hvalid : ∀ p ∈ db, NoLeadingNul p.1) :
    GammaInj cfg lv K3 db := by
  intro w ids w' ids' g hm hm' h h'
  have d := (piBytes_inv hh hl8 h).2
  rw [(piBytes_inv hh hl8 h').2] at d
  exact fromBE_inj w w' (hvalid _ hm) (hvalid _ hm') (congrArg Bitset.value (Except.ok.inj d)).symm

theorem walk_step {A : List Bytes} {id nk na ab : Bytes} (h : NodeAt cfg lv A K1 ctr key id nk na)
    {i : Nat} (ha : psiVal cfg lv K1 ctr = some i) (hab : intFromBytes ab = i) (fuel : Nat) (acc : List Bytes) :
    walk cfg lv A (fuel + 1) ab key acc =
      if allZero nk && allZero na then .ok (acc ++ [id]) else walk cfg lv A fuel na nk (acc ++ [id]) := by
  obtain ⟨i', c, h1, h2, h3, l1, l2, l3⟩ := h
  rw [ha] at h1
  cases h1
  have hsplit := split_flatten [cfg.idSize.toNat, cfg.k.toNat, cfg.log2sBytes] [id, nk, na] (by simp [l1, l2, l3])
  simp only [List.flatten_cons, List.flatten_nil, List.append_nil] at hsplit
  rw [List.append_assoc] at h3
  simp only [walk, hab, h2, h3, hsplit, pure_eq, ok_bind]

theorem walk_listAt {A : List Bytes} {i : Nat} {ab : Bytes} (hL : ListAt cfg lv A K1 ctr key ids)
    (ha : psiVal cfg lv K1 ctr = some i) (hab : intFromBytes ab = i) (fuel : Nat) (hf : ids.length ≤ fuel) (acc : List Bytes) :
    walk cfg lv A fuel ab key acc = .ok (acc ++ ids) := by
  induction ids generalizing ctr key i ab fuel acc with
  | nil => exact False.elim hL
  | cons id rest ih =>
    cases fuel with
    | zero => simp at hf
    | succ f =>
      cases rest with
      | nil =>
        rw [walk_step (listAt_singleton.mp hL) ha hab]
        simp [allZero_zeros]
      | cons id2 rest2 =>
        obtain ⟨nk, nb, i2, ha2, hnb, hnz, hnode, hrest⟩ := listAt_cons_cons.mp hL
        rw [walk_step hnode ha hab, hnz, Bool.false_and, if_neg Bool.false_ne_true,
          ih hrest ha2 hnb f (by simp at hf ⊢; omega) (acc ++ [id])]
        simp

section
variable (hl : LeafLaws lv) (hu : Usable cfg) (h2 : 2 ≤ cfg.log2s)
include hl hu h2

/-- `hfresh` is about every byte string drawn in the run; it is used of the table fillers' keys (`Built.lookup`) -/
theorem search_present {K4 : Bytes}
    (hs : setup cfg lv [K1, K2, K3, K4] db t = .ok (edb, t')) (hk : KeysGood cfg t)
    (hidl : ∀ p ∈ db, ∀ x ∈ p.2, x.length = cfg.idSize.toNat) (hkeys : (db.map (·.1)).Nodup)
    (hg : GammaInj cfg lv K3 db) {w : Bytes} {ids : List Bytes} (hm : (w, ids) ∈ db)
    (hfresh : ∀ g, piBytes cfg lv K3 w = .ok g → ∀ b, Draw.bytes b ∈ t → b ≠ g) :
    ∃ tk, token cfg lv [K1, K2, K3, K4] w = .ok tk ∧ search cfg lv edb tk = .ok ids := by
  obtain ⟨es, size, kvs, t1, t3, hb⟩ := setup_inv hs
  obtain ⟨e, he, hew⟩ := List.mem_map.mp (hb.db ▸ hm)
  cases hew
  have hkw := hb.kw e he
  obtain ⟨eta, fb, heta, hfb, hth⟩ := hkw.theta
  refine ⟨(e.gamma, eta), token_eq_ok.mpr ⟨hkw.gamma, heta⟩, ?_⟩
  have hT : edb.T.get e.gamma = some e.theta := hb.lookup hkeys hg he fun p hp =>
    hfresh e.gamma hkw.gamma p.1 (hb.suffix1.mem (hb.suffix.mem (hb.kvs_mem p hp).1))
  -- the entry is `(first address ‖ k0) ⊕ η`: xor with `η` again and cut at `log2sBytes`
  have hfa := hkw.first
  obtain ⟨_, hx⟩ := bytesXor_inv hth
  have hsplit := split_flatten [cfg.log2sBytes, cfg.k.toNat] [fb, e.k0]
    (by simp only [List.map_cons, List.map_nil, psi_bytes_len hl.hmac_len h2 hu.lb hfa hfb, hkw.k0])
  simp only [List.flatten_cons, List.flatten_nil, List.append_nil] at hsplit
  -- `search` gives `walk` `|A| + 1 = s + 1` steps: enough, the list has at most `s` nodes
  have hAl := hb.A_length
  have hsz := hb.ids_le hl.hmac_len h2 he
  have hwalk := walk_listAt (ab := fb) (hb.listAt hl hu h2 hk hidl e he)
    (psiVal_of_ok hfa) (Bitset.toBytes_inv hfb).1 (edb.A.length + 1) (by omega) []
  simp only [search, hT, hx, hsplit, ok_bind]
  simpa using hwalk

end

theorem KwOK.msgLen (h : KwOK cfg lv K1 K2 K3 e) (hh : HmacLen lv) (hu : Usable cfg) (h2 : 2 ≤ cfg.log2s)
    (hidl : ∀ x ∈ e.ids, x.length = cfg.idSize.toNat) :
    ∀ n ∈ e.nodes, (n.id ++ n.nk ++ n.na).length = cfg.idSize.toNat + cfg.k.toNat + cfg.log2sBytes := by
  intro n hn
  rcases Kw.mem_nodes.mp hn with hn | rfl
  · obtain ⟨id, hid, c, link⟩ := h.inner.node n hn
    obtain ⟨nxt, hnxt, hnb⟩ := link.next
    rw [List.length_append, List.length_append, link.id_eq, hidl _ hid, link.nk,
      psi_bytes_len hh h2 hu.lb hnxt hnb]
  · rw [List.length_append, List.length_append, hidl _ (List.mem_of_getLast? h.lastId), h.nk, h.na]
    simp [zeros]

theorem setup_shape (hl : LeafLaws lv) (hu : Usable cfg) (h2 : 2 ≤ cfg.log2s) {K4 : Bytes}
    (hs : setup cfg lv [K1, K2, K3, K4] db t = .ok (edb, t'))
    (hidl : ∀ p ∈ db, ∀ x ∈ p.2, x.length = cfg.idSize.toNat) :
    edb.A.map List.length = List.replicate cfg.s.toNat (nodeLen cfg) ∧
    ∀ e ∈ edb.T, e.1.length = cfg.l.toNat ∧ e.2.length = cfg.log2sBytes + cfg.k.toNat := by
  obtain ⟨es, size, kvs, t1, t3, hb⟩ := setup_inv hs
  refine ⟨List.eq_replicate_iff.mpr ⟨by rw [List.length_map, hb.A_length], fun x hx => ?_⟩, fun p hp => ?_⟩
  · obtain ⟨c, hc, rfl⟩ := List.mem_map.mp hx
    rcases hb.cell_cases hc with ⟨e, he, n, hn, rfl⟩ | ⟨hsz, _⟩
    · have hkw := hb.kw e he
      rw [nodeLen, (hkw.nodeEnc n hn).length hl.enc_len, hkw.msgLen hl.hmac_len hu h2 (hidl _ (hb.mem_db he)) n hn]
    · obtain ⟨probe, hp, rfl⟩ := hb.probe
      rw [nodeLen, hsz, hp.length hl.enc_len, zeros, List.length_replicate,
        Int.toNat_add (Int.add_nonneg (Int.le_of_lt hu.idpos) (Int.le_of_lt hu.kpos)) (Int.natCast_nonneg _),
        Int.toNat_add (Int.le_of_lt hu.idpos) (Int.le_of_lt hu.kpos), Int.toNat_natCast]
  · rcases hb.entry_cases hp with ⟨e, he, rfl⟩ | hp
    · have hkw := hb.kw e he
      obtain ⟨eta, fb, _, hfb, hth⟩ := hkw.theta
      refine ⟨(piBytes_inv hl.hmac_len hu.l8 hkw.gamma).1, ?_⟩
      rw [(bytesXor_inv hth).1, List.length_append, psi_bytes_len hl.hmac_len h2 hu.lb hkw.first hfb, hkw.k0]
    · rw [Nat.add_comm, ← hu.fOutNat]
      exact hb.kvsLen p hp

/-- the labels of the keywords and the filler keys are pairwise distinct, so `tableOfList` keeps every one of them, and
    `fillT` adds `dictSize - |labels|` fillers; `hnd`, `hfr` ask it of all `param_l`-byte draws of the run -/
theorem setup_table_length {K4 : Bytes} (hs : setup cfg lv [K1, K2, K3, K4] db t = .ok (edb, t'))
    (hkeys : (db.map (·.1)).Nodup) (hg : GammaInj cfg lv K3 db) (hle : db.length ≤ cfg.dictSize.toNat)
    (hnd : (drawsLen cfg.l.toNat t).Nodup) (hfr : ∀ p ∈ db, ∀ g, piBytes cfg lv K3 p.1 = .ok g → g ∉ drawsLen cfg.l.toNat t) :
    edb.T.length = cfg.dictSize.toNat := by
  obtain ⟨es, size, kvs, t1, t3, hb⟩ := setup_inv hs
  have hlab := hb.labels_nodup hkeys hg
  have hsub := (fillT_keys_sublist kvs (fun p hp => (hb.kvsLen p hp).1) t').trans
    (hb.tape3 ▸ drawsLen_suffix cfg.l.toNat (hb.suffix.trans hb.suffix1))
  have hlabels : (es.map fun e => (e.gamma, e.theta)).map (·.1) = es.map (·.gamma) := by rw [List.map_map]; rfl
  have hcount := hb.kvsCount
  rw [tableOfList_length _ (hlabels ▸ hlab), List.length_map] at hcount
  rw [hb.T, tableOfList_length, List.length_append, List.length_map, hcount, ← List.length_map (as := es), ← hb.db]
  · omega
  · rw [List.map_append, hlabels]
    refine List.nodup_append.mpr ⟨hlab, hnd.sublist hsub, fun g hg' k hk hgk => ?_⟩
    obtain ⟨e, he, rfl⟩ := List.mem_map.mp hg'
    exact hfr _ (hb.mem_db he) _ (hb.kw e he).gamma (hgk ▸ hsub.subset hk)

end SSEPy.Sch.SSE1
