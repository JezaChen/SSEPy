/-
  SSE-1's two permutations, ψ (node counter ↦ array address) and π (keyword ↦ table label), as calls of the bit PRP (`Prp.lean`).
-/
import SSEPyVerif.Model.Schemes.SSE1
import SSEPyVerif.Proofs.Schemes.Prp
namespace SSEPy.Sch.SSE1
open SSEPy.Sch

variable {cfg : SSE1Cfg} {lv : Leaves} (hh : HmacLen lv)
include hh

theorem psi_inv (h2 : 2 ≤ cfg.log2s) {K1 : Bytes} {ctr : Nat} {a : Bitset} (h : psi cfg lv K1 ctr = .ok a) :
    a.WF ∧ a.length = cfg.log2s ∧ prpDec lv K1 (cfg.k * 8).toNat ⟨a.value, cfg.log2s⟩ = .ok ⟨ctr, cfg.log2s⟩ := by
  simp only [psi, ok_inv] at h
  obtain ⟨key, hkey, m, hm, h⟩ := h
  exact bitwiseFpePrp_inv hh h2 hkey hm h

theorem psi_inj (h2 : 2 ≤ cfg.log2s) {K1 : Bytes} {a b : Nat} {x y : Bitset} (ha : psi cfg lv K1 a = .ok x)
    (hb : psi cfg lv K1 b = .ok y) (hv : x.value = y.value) : a = b := by
  obtain ⟨_, _, dx⟩ := psi_inv hh h2 ha
  obtain ⟨_, _, dy⟩ := psi_inv hh h2 hb
  rw [hv, dy] at dx
  exact congrArg Bitset.value (Except.ok.inj dx).symm

theorem psi_lt (h2 : 2 ≤ cfg.log2s) {K1 : Bytes} {ctr : Nat} {a : Bitset} (h : psi cfg lv K1 ctr = .ok a) :
    a.value < 2 ^ cfg.log2s := by
  obtain ⟨wf, len, _⟩ := psi_inv hh h2 h
  exact len ▸ wf

/-- `hlb` is how `config.py` computes `param_log2_s_bytes` -/
theorem psi_bytes_len (h2 : 2 ≤ cfg.log2s) (hlb : cfg.log2sBytes = (cfg.log2s + 7) / 8) {K1 : Bytes} {ctr : Nat} {a : Bitset}
    {b : Bytes} (h : psi cfg lv K1 ctr = .ok a) (hb : a.toBytes = .ok b) : b.length = cfg.log2sBytes := by
  obtain ⟨_, hlen, _⟩ := psi_inv hh h2 h
  rw [(Bitset.toBytes_inv hb).2, hlen, hlb]

omit hh in
/-- without `omega`: it is slow on `Int.toNat` under a division -/
theorem bytes_of_bits (z : Int) : ((z * 8).toNat + 7) / 8 = z.toNat := by
  rcases Int.le_total 0 z with h | h
  · -- `0 ≤ z`
    rw [Int.toNat_mul h (by decide)]
    have hlo : z.toNat * 8 ≤ z.toNat * 8 + 7 := Nat.le_add_right _ _
    have hhi : z.toNat * 8 + 7 < (z.toNat + 1) * 8 := by
      rw [Nat.succ_mul]
      exact Nat.add_lt_add_left (by decide) _
    exact Nat.div_eq_of_lt_le hlo hhi
  · -- `z ≤ 0`: both sides are 0
    rw [Int.toNat_of_nonpos h, Int.toNat_of_nonpos (Int.mul_nonpos_of_nonpos_of_nonneg h (by decide))]

theorem piBytes_inv (hl8 : 2 ≤ (cfg.l * 8).toNat) {K3 w g : Bytes} (h : piBytes cfg lv K3 w = .ok g) :
    g.length = cfg.l.toNat ∧
    prpDec lv K3 (cfg.k * 8).toNat ⟨intFromBytes g, (cfg.l * 8).toNat⟩ = .ok ⟨fromBE w, (cfg.l * 8).toNat⟩ := by
  simp only [piBytes, ok_inv] at h
  obtain ⟨key, hkey, m, hm, out, hout, h⟩ := h
  obtain ⟨hwlt, rfl⟩ := (Bitset.ofBytes_eq_ok (Nat.ne_of_gt (Nat.lt_of_lt_of_le Nat.zero_lt_two hl8))).mp hm
  obtain ⟨_, hol, hinv⟩ := bitwiseFpePrp_inv hh hl8 hkey (Bitset.mk'_of_lt _ _ hwlt) hout
  obtain ⟨hv, hlen⟩ := Bitset.toBytes_inv h
  exact ⟨by rw [hlen, hol, bytes_of_bits], hv ▸ hinv⟩

variable (cfg lv)

theorem psi_returns (h2 : 2 ≤ cfg.log2s) (K1 : Bytes) (hK : (K1.length : Int) = cfg.k) (ctr : Nat)
    (hc : ctr < 2 ^ cfg.log2s) : ∃ a, psi cfg lv K1 ctr = .ok a ∧ a.WF := by
  obtain ⟨key, hkey, out, ho, how⟩ := bitwiseFpePrp_returns hh hK hc h2
  exact ⟨out, by simp only [psi, hkey, Bitset.mk'_of_lt _ _ hc, ho, ok_bind], how⟩

theorem piBytes_returns (hl8 : 2 ≤ (cfg.l * 8).toNat) (K3 : Bytes) (hK : (K3.length : Int) = cfg.k) (w : Bytes)
    (hw : (w.length : Int) ≤ cfg.l) : ∃ g, piBytes cfg lv K3 w = .ok g := by
  obtain ⟨hwb, hwlt, el⟩ := Bitset.ofBytes_returns w cfg.l hw
  obtain ⟨key, hkey, out, ho, how⟩ := bitwiseFpePrp_returns hh hK hwlt hl8
  rw [el] at ho
  exact ⟨toBE ((out.length + 7) / 8) out.value,
    by simp only [piBytes, hkey, hwb, ho, Bitset.toBytes_eq out how, ok_bind]⟩

end SSEPy.Sch.SSE1
