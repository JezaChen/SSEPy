/-
  DP17: what the index is.  Its shape is a function of N and the configuration: bucket x of level i holds as many ciphertexts
  of `param_identifier_cipher_len` bytes as it has cells, whatever is stored in it (`finishLevels_shape`), and the chunk
  entries of the hash table have `param_hash_h_digest_size`-byte keys and values and are at most N (`encDb_ht_shape`);
  C05 reads the shape of the index off these two.  Every cell of every array is a random draw of the run
  or the ciphertext of a posting's `id ‖ 0^λ` under an IV drawn in the run (`setup_cells`).
-/
import SSEPyVerif.Proofs.Schemes.DP17
namespace SSEPy.Sch.DP17
open SSEPy.Sch

variable (cfg : DP17Cfg) (lv : Leaves)

theorem finishBuckets_shape (hE : BlockLen lv) (n : Nat) (hclen : cfg.cipherLen = 16 + 16 * (n / 16 + 1)) {k3 : Bytes}
    {lvl : Level} {sizes : List Nat} {t : Tape} {bs : List (List Entry)} {arr : List Bytes} {t' : Tape}
    (h : finishBuckets cfg lv k3 lvl.buckets lvl.remaining t = .ok (bs, arr, t')) (hinv : BInv sizes lvl)
    (hlen : ∀ b ∈ lvl.buckets, EntP (fun _ id => id.length + cfg.lambda.toNat = n) b) :
    arr.map List.length = sizes.map (· * cfg.cipherLen) := by
  obtain ⟨_, _, f2, f3⟩ := finishBuckets_inv cfg lv h
  obtain ⟨i1, i2, i3⟩ := hinv
  apply List.ext_getElem?
  intro x
  simp only [List.getElem?_map]
  by_cases hx : x < lvl.buckets.length
  · have hxr : x < lvl.remaining.length := by rw [i1, ← i2]; exact hx
    have hr := List.getElem?_eq_getElem hxr
    have hs := List.getElem?_eq_getElem (i2 ▸ hx)
    obtain ⟨sh, a, _, a2, a3⟩ := f3 x _ (List.getElem?_eq_getElem hx)
    obtain ⟨cs, rfl, hcl, hlens, _⟩ := a3.cells cfg lv hE n hclen (hlen _ (List.getElem_mem hx))
    have := i3 x _ _ _ (List.getElem?_eq_getElem hx) hr hs
    rw [a2, hs, Option.map_some, Option.map_some, flatten_length_of_all _ cs hlens, hcl, hr, Option.getD_some, this]
  · have hx' := Nat.le_of_not_lt hx
    rw [List.getElem?_eq_none (f2 ▸ hx'), List.getElem?_eq_none (i2 ▸ hx')]
    rfl

/-- `hnd`: a level that is twice in the list is padded twice, and its buckets then hold more than their cells -/
theorem finishLevels_shape (hE : BlockLen lv) (n : Nat) (hclen : cfg.cipherLen = 16 + 16 * (n / 16 + 1)) (N : Nat)
    {k3 : Bytes} {lvls : List Int} {ls : List Level} {A : List (Int × List Bytes)} {t : Tape} {A' : List (Int × List Bytes)}
    {t' : Tape} (h : finishLevels cfg lv k3 lvls ls A t = .ok (A', t')) (hnd : lvls.Nodup)
    (hinv : ∀ j ∈ lvls, ∀ l, getLevel ls j = some l →
      BInv (sizesOf N j) l ∧ ∀ b ∈ l.buckets, EntP (fun _ id => id.length + cfg.lambda.toNat = n) b) :
    (∀ j ∈ lvls, ∃ arr, A'.lookup j = some arr ∧ arr.map List.length = (sizesOf N j).map (· * cfg.cipherLen)) ∧
    ∀ j, j ∉ lvls → A'.lookup j = A.lookup j := by
  induction lvls generalizing ls A t with
  | nil => cases h; exact ⟨fun j hj => (nomatch hj), fun j _ => rfl⟩
  | cons i rest ih =>
    obtain ⟨lvl, bs, arr, t1, hget, hr, h⟩ := finishLevels_cons cfg lv h
    obtain ⟨hb, hel⟩ := hinv i List.mem_cons_self lvl hget
    have hshape := finishBuckets_shape cfg lv hE n hclen hr hb hel
    simp only [List.nodup_cons] at hnd
    -- the levels still to come are not the one written back
    obtain ⟨i1, i2⟩ := ih h hnd.2 fun j hj l hl => by
      have hji : j ≠ lvl.lev := fun e => hnd.1 (e.trans (getLevel_lev hget) ▸ hj)
      rw [getLevel_setLevel_ne ls { lvl with buckets := bs } j hji] at hl
      exact hinv j (List.mem_cons_of_mem _ hj) l hl
    refine ⟨fun j hj => ?_, fun j hj => ?_⟩
    · rcases List.mem_cons.mp hj with rfl | hj
      · exact ⟨arr, by rw [i2 j hnd.1, lookup_updA, if_pos rfl], hshape⟩
      · exact i1 j hj
    · simp only [List.mem_cons, not_or] at hj
      rw [i2 j hj.2, lookup_updA, if_neg hj.1]

theorem htInsert_shape {d : Nat} (hsha : ShaLen lv d) {k1 k2 w : Bytes} {count i x : Nat} {c : List Bytes} {HT HT' : Table}
    (h : htInsert cfg lv k1 k2 w count i x c HT = .ok HT') (hT : EntLens HT cfg.dsz cfg.dsz) :
    EntLens HT' cfg.dsz cfg.dsz ∧ HT'.length ≤ HT.length + 1 := by
  rcases htInsert_inv cfg lv h with ⟨_, rfl⟩ | ⟨_, key, v, hkey, hv, rfl⟩
  · exact ⟨hT, Nat.le_succ _⟩
  have hkl : key.length = cfg.dsz := by
    obtain ⟨tag, _, hkey⟩ := (htKey_eq_ok cfg lv).mp hkey
    obtain ⟨r, hr, hrl⟩ := hashH_returns cfg lv hsha (tag ++ natToBytesMin count)
    rw [hr] at hkey
    cases hkey
    exact hrl
  have hvl : v.length = cfg.dsz := by
    obtain ⟨ib, hib, xb, hxb, _, _, mask, _, hv⟩ := (htVal_eq_ok cfg lv).mp hv
    obtain ⟨_, rfl⟩ := bytesXor_eq_ok.mp hv
    rw [xorPrefix_length, List.length_append, (C17.int_roundtrip _ _ _ hib).2, (C17.int_roundtrip _ _ _ hxb).2]
    omega
  -- `tinsert` replaces the entry of a key that is there and appends otherwise
  have hgrow : (tinsert HT key v).length ≤ HT.length + 1 := by
    rw [tinsert_length]
    split <;> omega
  refine ⟨fun e he => ?_, hgrow⟩
  rcases mem_tinsert HT key v e he with he | rfl
  · exact hT e he
  · exact ⟨hkl, hvl⟩

theorem encDb_ht_shape {d : Nat} (hsha : ShaLen lv d) {k1 k2 : Bytes} {levels : List Int} {db : DB} {ls : List Level}
    {HT : Table} {t : Tape} {r : List Level × Table × Tape} (h : encDb cfg lv k1 k2 levels db ls HT t = .ok r)
    (hT : EntLens HT cfg.dsz cfg.dsz) :
    EntLens r.2.1 cfg.dsz cfg.dsz ∧ r.2.1.length ≤ HT.length + db.total := by
  have := encDb_rule cfg lv (fun n _ H _ => EntLens H cfg.dsz cfg.dsz ∧
      H.length ≤ HT.length + ((db.take n).map (·.2.length)).sum) h ⟨hT, by simp⟩ ?_
  · rwa [List.take_length] at this
  intro st ⟨a1, a2⟩
  -- every chunk adds at most one entry, and there are at most as many chunks as identifiers
  have := placeChunks_rule cfg lv (fun m _ H' _ => EntLens H' cfg.dsz cfg.dsz ∧ H'.length ≤ st.HT.length + m) st.placed
    ⟨a1, Nat.le_refl _⟩ ?_
  · have hle := chunks_length_le st.cut
    rw [sum_map_take_succ st.kw]
    dsimp only at this ⊢
    exact ⟨this.1, by omega⟩
  intro ch hJ
  obtain ⟨s1, s2⟩ := htInsert_shape cfg lv hsha ch.ins hJ.1
  exact ⟨s1, Nat.le_trans s2 (Nat.succ_le_succ hJ.2)⟩

/-- a cell as C04 classifies it: a random draw of the run, or a posting's `id ‖ 0^λ` encrypted under its keyword's tag with
    a drawn IV -/
def CellFrom (k3 : Bytes) (t : Tape) (P : Bytes → Bytes → Prop) (c : Bytes) : Prop :=
  Draw.bytes c ∈ t ∨ ∃ w id etag iv, P w id ∧ cfg.prfF.call lv.hmac k3 w = .ok etag ∧ Draw.bytes iv ∈ t ∧ iv.length = 16 ∧
    cfg.rnd.encrypt lv.E etag iv (id ++ zeros cfg.lambda.toNat) = .ok c

theorem CellFrom.mono {k3 : Bytes} {t t' : Tape} {P : Bytes → Bytes → Prop} {c : Bytes} (hs : Suffix t' t)
    (h : CellFrom cfg lv k3 t' P c) : CellFrom cfg lv k3 t P c := by
  rcases h with hdraw | ⟨w, id, etag, iv, hP, htag, hiv, hivl, henc⟩
  · exact .inl (hs.mem hdraw)
  · exact .inr ⟨w, id, etag, iv, hP, htag, hs.mem hiv, hivl, henc⟩

/-- a bucket of a level array: whole cells, each classified -/
def GoodBucket (k3 : Bytes) (t : Tape) (P : Bytes → Bytes → Prop) (a : Bytes) : Prop :=
  ∃ cs : List Bytes, a = cs.flatten ∧ (∀ c ∈ cs, c.length = cfg.cipherLen) ∧ ∀ c ∈ cs, CellFrom cfg lv k3 t P c

theorem GoodBucket.mono {k3 : Bytes} {t t' : Tape} {P : Bytes → Bytes → Prop} {a : Bytes} (hs : Suffix t' t)
    (h : GoodBucket cfg lv k3 t' P a) : GoodBucket cfg lv k3 t P a := by
  obtain ⟨cs, h1, h2, h3⟩ := h
  exact ⟨cs, h1, h2, fun c hc => CellFrom.mono cfg lv hs (h3 c hc)⟩

theorem CellOf.cellFrom {k3 : Bytes} {t : Tape} {e : Entry} {c : Bytes} {P : Bytes → Bytes → Prop}
    (h : CellOf cfg lv k3 t e c) (hP : ∀ w id, e = some (w, id) → P w id) : CellFrom cfg lv k3 t P c := by
  match e, h with
  | none, ⟨h1, _⟩ => exact .inl h1
  | some (w, id), ⟨etag, het, henc⟩ =>
    obtain ⟨iv, hivl, hiv, hc⟩ : Enc cfg.rnd lv t etag (id ++ zeros cfg.lambda.toNat) c := henc
    exact .inr ⟨w, id, etag, iv, hP w id rfl, het, hiv, hivl, hc⟩

theorem Finished.good (hE : BlockLen lv) (n : Nat) (hclen : cfg.cipherLen = 16 + 16 * (n / 16 + 1)) {k3 : Bytes} {t : Tape}
    {b sh : List Entry} {r : Nat} {a : Bytes} {P : Bytes → Bytes → Prop} (h : Finished cfg lv k3 t b r sh a)
    (hlen : ∀ w id, P w id → id.length + cfg.lambda.toNat = n) (hP : EntP P b) : GoodBucket cfg lv k3 t P a := by
  obtain ⟨cs, ha, _, hlens, hcs⟩ := h.cells cfg lv hE n hclen (hP.imp hlen)
  refine ⟨cs, ha, hlens, fun c hc => ?_⟩
  obtain ⟨e, he, hcell⟩ := hcs.of_mem_right hc
  exact hcell.cellFrom cfg lv fun w id e' => h.entP cfg lv hP w id (e' ▸ he)

theorem finishLevels_cells (hE : BlockLen lv) (n : Nat) (hclen : cfg.cipherLen = 16 + 16 * (n / 16 + 1))
    {P : Bytes → Bytes → Prop} {k3 : Bytes} {lvls : List Int} {ls : List Level} {A : List (Int × List Bytes)} {t : Tape}
    {A' : List (Int × List Bytes)} {t' : Tape} (h : finishLevels cfg lv k3 lvls ls A t = .ok (A', t'))
    (hlen : ∀ w id, P w id → id.length + cfg.lambda.toNat = n) (hent : ∀ l ∈ ls, ∀ b ∈ l.buckets, EntP P b)
    {t0 : Tape} (hs0 : Suffix t t0) (hA : ∀ p ∈ A, ∀ a ∈ p.2, GoodBucket cfg lv k3 t0 P a) :
    ∀ p ∈ A', ∀ a ∈ p.2, GoodBucket cfg lv k3 t0 P a := by
  have := finishLevels_rule cfg lv (fun _ ls1 A1 t1 => Suffix t1 t0 ∧ (∀ l ∈ ls1, ∀ b ∈ l.buckets, EntP P b) ∧
      ∀ p ∈ A1, ∀ a ∈ p.2, GoodBucket cfg lv k3 t0 P a) h ⟨hs0, hent, hA⟩ ?_
  · obtain ⟨_, _, _, hI⟩ := this
    exact hI
  intro st ⟨hs, hl1, hI⟩
  obtain ⟨f0, f1, f2, f3⟩ := finishBuckets_inv cfg lv st.finished
  have hlb := hl1 st.lvl (getLevel_mem st.here)
  refine ⟨f0.trans hs, forall_setLevel hl1 (finishBuckets_entP cfg lv st.finished hlb), fun p hp a ha => ?_⟩
  rcases mem_updA hp with hp | rfl
  · exact hI p hp a ha
  · obtain ⟨x, hx⟩ := List.mem_iff_getElem?.mp ha
    have hxl : x < st.lvl.buckets.length := f2 ▸ (List.getElem?_eq_some_iff.mp hx).1
    obtain ⟨sh, a', _, a2, a3⟩ := f3 x _ (List.getElem?_eq_getElem hxl)
    rw [hx] at a2; cases a2
    exact (a3.good cfg lv hE n hclen hlen (hlb _ (List.getElem_mem hxl))).mono cfg lv hs

theorem setup_cells (raw : RawCfg) (hcfg : DP17.cfgBuild raw = .ok cfg) (hl : LeafLaws lv)
    (k1 k2 k3 : Bytes) (db : DB) (t t' : Tape) (edb : DP17EDB)
    (hs : setup cfg lv [k1, k2, k3] db t = .ok (edb, t'))
    (hidl : ∀ p ∈ db, ∀ id ∈ p.2, (id.length : Int) = cfg.idSize) :
    ∀ p ∈ edb.A, ∀ a ∈ p.2, GoodBucket cfg lv k3 t (fun w id => ∃ ids, (w, ids) ∈ db ∧ id ∈ ids) a := by
  obtain ⟨hplain, hlam, hclen⟩ := cfgBuild_accepted cfg raw hcfg
  obtain ⟨ls0, ls1, HT, t1, t2, run⟩ := setup_inv cfg lv hs
  exact finishLevels_cells cfg lv hl.enc_len _ hclen run.finish (postings_idLen cfg hlam hidl) run.postings run.suffix2
    (fun p hp => nomatch hp)

end SSEPy.Sch.DP17
