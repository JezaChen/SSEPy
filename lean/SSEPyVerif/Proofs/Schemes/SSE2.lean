/-
  SSE-2 `Setup` read backwards.  `setup` writes `π(w ‖ 1+i) ↦ ids[i]` for every posting, in the order of the database
  (`writes`), and counts for every identifier the postings that name it (`bump`).  When no two postings share an address and
  the filler loop is empty the index is that list (`setup_index`), and `search` on the token of `w` reads `DB.get db w` back
  from it.  Addresses are distinct because the bit PRP is invertible (C15) and `w ‖ j` is injective on keywords without a
  leading NUL byte (`addr_inj`).
-/
import SSEPyVerif.Model.Schemes.SSE2
import SSEPyVerif.Proofs.Schemes.Prp
import SSEPyVerif.Proofs.Schemes.Table
import SSEPyVerif.Proofs.Schemes.Cfg
import SSEPyVerif.Proofs.Bits

namespace SSEPy.Sch

theorem lookup_iinsert (t : ITable) (k : Nat) (v : Bytes) (k' : Nat) :
    (iinsert t k v).lookup k' = if k' = k then some v else t.lookup k' := by
  induction t with
  | nil => rw [iinsert, lookup_cons_if]
  | cons p rest ih =>
    obtain ⟨a, b⟩ := p
    rw [iinsert]
    by_cases h : a = k
    · -- `k` is at the head: its value is replaced
      subst a
      rw [if_pos rfl, lookup_cons_if, lookup_cons_if]
      by_cases h2 : k' = k
      · rw [if_pos h2, if_pos h2]
      · rw [if_neg h2, if_neg h2, if_neg h2]
    · -- another key at the head: the insertion goes on behind it
      rw [if_neg h, lookup_cons_if, lookup_cons_if, ih]
      by_cases h2 : k' = a
      · rw [if_pos h2, if_neg (h2 ▸ h), if_pos h2]
      · rw [if_neg h2, if_neg h2]

theorem mem_iinsert {t : ITable} {k : Nat} {v : Bytes} {e : Nat × Bytes} (h : e ∈ iinsert t k v) :
    e ∈ t ∨ e = (k, v) := by
  induction t with
  | nil => exact .inr (List.mem_singleton.mp h)
  | cons p rest ih =>
    simp only [iinsert] at h
    split at h
    · rename_i hk
      rcases List.mem_cons.mp h with h | h
      · exact .inr (by rw [h, hk])
      · exact .inl (List.mem_cons_of_mem _ h)
    · rcases List.mem_cons.mp h with h | h
      · exact .inl (h ▸ List.mem_cons_self)
      · exact (ih h).imp_left (List.mem_cons_of_mem _)

theorem iinsert_fresh {t : ITable} {k : Nat} (v : Bytes) (h : k ∉ t.map (·.1)) : iinsert t k v = t ++ [(k, v)] := by
  induction t with
  | nil => rfl
  | cons p rest ih =>
    rw [List.map_cons, List.mem_cons, not_or] at h
    rw [iinsert, if_neg (fun e => h.1 e.symm), ih h.2, List.cons_append]

theorem mul_add_inj {m a a' j j' : Nat} (hj : j < m) (hj' : j' < m) (h : a * m + j = a' * m + j') : a = a' ∧ j = j' := by
  have ha : a = a' := by
    have := congrArg (· / m) h
    simp only [Nat.mul_comm _ m, Nat.mul_add_div (Nat.zero_lt_of_lt hj), Nat.div_eq_of_lt hj,
      Nat.div_eq_of_lt hj'] at this
    exact this
  subst ha
  exact ⟨rfl, Nat.add_left_cancel h⟩

theorem paramMaxLoop_ge (maxSize fuel result kw doc : Nat) : result ≤ paramMaxLoop maxSize fuel result kw doc := by
  induction fuel generalizing result kw doc with
  | zero => simp [paramMaxLoop]
  | succ f ih =>
    simp only [paramMaxLoop]
    split
    · exact Nat.le_add_right _ _
    · exact Nat.le_trans (Nat.le_add_right _ _) (ih (result + 2 ^ (kw * 8)) (kw + 1) (doc + 2 ^ (kw * 8) * kw))

theorem determineParamMax_pos (m : Nat) (h : 0 < m) : 0 < determineParamMax m := by
  rw [determineParamMax, show m + 2 = (m + 1) + 1 from rfl, paramMaxLoop]
  split
  · rw [Nat.zero_add, Nat.sub_zero, Nat.div_one]
    exact h
  · exact Nat.lt_of_lt_of_le (Nat.add_pos_right 0 (Nat.pow_pos (by decide))) (paramMaxLoop_ge ..)

namespace SSE2

structure Parsed (cfg : SSE2Cfg) (raw : RawCfg) (mfs : Int) : Prop where
  positive : checkParamPositive raw = .ok ()
  exist : checkParamExist ["param_k", "param_l", "param_n", "param_max_file_size"] raw = .ok ()
  getK : getInt raw "param_k" = .ok cfg.k
  getL : getInt raw "param_l" = .ok cfg.l
  getN : getInt raw "param_n" = .ok cfg.n
  getMaxFileSize : getInt raw "param_max_file_size" = .ok mfs
  npos : 0 < cfg.n
  piName : checkBitPrp (getName raw "prp_pi") = .ok ()
  skeName : isAesCbcName (getName raw "ske") = true
  ske : ∃ ske, AESxCBC.new cfg.k = .ok ske
  max : cfg.max = determineParamMax mfs.toNat
  bitsNM : cfg.bitsNM = clog2 (cfg.n.toNat + cfg.max)
  bytesNM : cfg.bytesNM = ceilDiv cfg.bitsNM 8
  s : cfg.s = cfg.max * cfg.n

theorem cfgBuild_inv (cfg : SSE2Cfg) (raw : RawCfg) (h : SSE2.cfgBuild raw = .ok cfg) : ∃ mfs, Parsed cfg raw mfs := by
  simp only [SSE2.cfgBuild, ok_inv, Int.not_le, Bool.not_eq_true', Bool.not_eq_false] at h
  obtain ⟨_, hpos, _, hex, k, hk, l, hl, n, hn, mfs, hmfs, hnpos, _, hpi, hsn, ske, hske, h⟩ := h
  subst h
  -- `with_reducible`: plain `rfl` is slow on these two projections of the record
  exact ⟨mfs,
    { positive := hpos, exist := hex, getK := hk, getL := hl, getN := hn, getMaxFileSize := hmfs, npos := hnpos,
      piName := hpi, skeName := hsn, ske := ⟨ske, hske⟩, max := rfl, bitsNM := by with_reducible rfl,
      bytesNM := by with_reducible rfl, s := rfl }⟩

structure Usable (cfg : SSE2Cfg) : Prop where
  kpos : 0 < cfg.k
  lpos : 0 < cfg.l
  bits : 0 < cfg.bitsNM
  bytes : cfg.bitsNM ≤ 8 * cfg.bytesNM

theorem Usable.lbits {cfg : SSE2Cfg} (hu : Usable cfg) : 0 < (cfg.l * 8).toNat := by
  have := hu.lpos
  omega

theorem cfgBuild_usable (cfg : SSE2Cfg) (raw : RawCfg) (h : SSE2.cfgBuild raw = .ok cfg) :
    Usable cfg ∧ cfg.n.toNat < 2 ^ cfg.bitsNM := by
  obtain ⟨mfs, p⟩ := cfgBuild_inv cfg raw h
  have pos := fun f z => param_pos _ raw f z p.positive p.exist
  have hmfs := pos "param_max_file_size" mfs (by decide +kernel) (by simp) p.getMaxFileSize
  have hmx : 0 < cfg.max := by
    rw [p.max]
    exact determineParamMax_pos mfs.toNat (by omega)
  have hn := p.npos
  have h2 : ¬ cfg.n.toNat + cfg.max ≤ 1 := by omega
  have hbits : 0 < cfg.bitsNM := by
    rw [p.bitsNM, clog2, if_neg h2]
    exact Nat.succ_pos _
  have hbytes : cfg.bitsNM ≤ 8 * cfg.bytesNM := by
    rw [p.bytesNM]
    exact (ceilDiv_le_iff (by decide)).mp (Nat.le_refl _)
  have hroom : cfg.n.toNat < 2 ^ cfg.bitsNM := by
    rw [p.bitsNM]
    exact Nat.lt_of_lt_of_le (Nat.lt_add_of_pos_right hmx) (le_two_pow_clog2 _)
  refine ⟨?_, hroom⟩
  exact
    { kpos := pos "param_k" cfg.k (by decide +kernel) (by simp) p.getK
      lpos := pos "param_l" cfg.l (by decide +kernel) (by simp) p.getL
      bits := hbits
      bytes := hbytes }

variable {cfg : SSE2Cfg} {lv : Leaves}

/-- `hlbits` and `hbits` are `Usable.lbits` and `Usable.bits`; the lemmas from here to `search_setup` take the two and not
    `Usable`, because `C01.SSE2.search_stored_valid` assumes just these -/
theorem addr_inv (hh : HmacLen lv) (hlbits : 0 < (cfg.l * 8).toNat) (hbits : 0 < cfg.bitsNM)
    {K1 w : Bytes} {j a : Nat} (h : addr cfg lv K1 w (j : Int) = .ok a) :
    j < 2 ^ cfg.bitsNM ∧ a < 2 ^ ((cfg.l * 8).toNat + cfg.bitsNM) ∧
      prpDec lv K1 (cfg.k * 8).toNat ⟨a, (cfg.l * 8).toNat + cfg.bitsNM⟩ =
        .ok ⟨fromBE w * 2 ^ cfg.bitsNM + j, (cfg.l * 8).toNat + cfg.bitsNM⟩ := by
  simp only [addr, Bitset.concat, ok_inv] at h
  obtain ⟨key, hkey, wb, hwb, jb, hjb, cb, hcb, msg, hmsg, out, hout, rfl⟩ := h
  obtain ⟨_, rfl⟩ := (Bitset.ofBytes_eq_ok (Nat.ne_of_gt hlbits)).mp hwb
  obtain ⟨hjlt, rfl⟩ := (Bitset.ofBytes_eq_ok (Nat.ne_of_gt hbits)).mp hcb
  dsimp only at hmsg
  rw [intToBytes_natCast] at hjb
  rw [show fromBE jb = j from (C17.int_roundtrip j cfg.bytesNM jb hjb).1] at hjlt hmsg
  obtain ⟨how, hol, hd⟩ := bitwiseFpePrp_inv hh (Nat.add_le_add hlbits hbits) hkey hmsg hout
  exact ⟨hjlt, hol ▸ how, hd⟩

theorem addr_inj (hh : HmacLen lv) (hlbits : 0 < (cfg.l * 8).toNat) (hbits : 0 < cfg.bitsNM)
    {K1 w w' : Bytes} {j j' a : Nat} (hw : NoLeadingNul w) (hw' : NoLeadingNul w')
    (h : addr cfg lv K1 w (j : Int) = .ok a) (h' : addr cfg lv K1 w' (j' : Int) = .ok a) : w = w' ∧ j = j' := by
  obtain ⟨jl, _, od⟩ := addr_inv hh hlbits hbits h
  obtain ⟨jl', _, od'⟩ := addr_inv hh hlbits hbits h'
  rw [od'] at od
  obtain ⟨hq, hj⟩ := mul_add_inj jl' jl (congrArg Bitset.value (Except.ok.inj od))
  exact ⟨(fromBE_inj w' w hw' hw hq).symm, hj.symm⟩

/-- one write, `iinsert` on a pair: a run of writes is `foldl ins` -/
def ins (I : ITable) (p : Nat × Bytes) : ITable := iinsert I p.1 p.2

/-- the counter update `cnt'` of `encList`: one more posting names `id` -/
def bump (cnt : List (Bytes × Nat)) (id : Bytes) : List (Bytes × Nat) :=
  match cnt.lookup id with
  | some c => cnt.map fun p => if p.1 = id then (p.1, c + 1) else p
  | none => cnt ++ [(id, 1)]

theorem mem_foldl_ins {ps : List (Nat × Bytes)} {I : ITable} {e : Nat × Bytes} (h : e ∈ ps.foldl ins I) :
    e ∈ I ∨ e ∈ ps := by
  induction ps generalizing I with
  | nil => exact .inl h
  | cons p ps ih =>
    rcases ih h with h1 | h1
    · rcases mem_iinsert h1 with h2 | rfl
      · exact .inl h2
      · exact .inr List.mem_cons_self
    · exact .inr (List.mem_cons_of_mem _ h1)

theorem foldl_ins_fresh (ps : List (Nat × Bytes)) (I : ITable) (hn : (I.map (·.1) ++ ps.map (·.1)).Nodup) :
    ps.foldl ins I = I ++ ps := by
  induction ps generalizing I with
  | nil => rw [List.foldl_nil, List.append_nil]
  | cons p ps ih =>
    obtain ⟨_, _, hdisj⟩ := List.nodup_append.mp hn
    have hp : p.1 ∉ I.map (·.1) := fun hm => hdisj _ hm _ List.mem_cons_self rfl
    rw [List.foldl_cons, ins, iinsert_fresh _ hp, ih _ (by simpa using hn), List.append_assoc, List.singleton_append]

/-- `[id].count p.1` is one if the identifier is `id`, else zero: in this form the bounds add up along `foldl bump` to a
    `List.count` (`foldl_bump_cnt` in `SSE2Complete`) -/
theorem mem_bump {cnt : List (Bytes × Nat)} {id : Bytes} {p : Bytes × Nat} (h : p ∈ bump cnt id) :
    (∃ q ∈ cnt, q.1 = p.1 ∧ p.2 ≤ q.2 + [id].count p.1) ∨ p = (id, 1) := by
  unfold bump at h
  split at h
  · rename_i c hc
    obtain ⟨q, hq, rfl⟩ := List.mem_map.mp h
    split
    · rename_i he
      exact .inl ⟨(id, c), mem_of_lookup_eq_some hc, he.symm,
        Nat.le_of_eq (by rw [he, List.count_singleton_self])⟩
    · exact .inl ⟨q, hq, rfl, Nat.le_add_right _ _⟩
  · rcases List.mem_append.mp h with h | h
    · exact .inl ⟨p, h, rfl, Nat.le_add_right _ _⟩
    · exact .inr (List.mem_singleton.mp h)

theorem mem_foldl_bump {ids : List Bytes} {cnt : List (Bytes × Nat)} {p : Bytes × Nat} (h : p ∈ ids.foldl bump cnt) :
    p.1 ∈ cnt.map (·.1) ∨ p.1 ∈ ids := by
  induction ids generalizing cnt with
  | nil => exact .inl (List.mem_map_of_mem h)
  | cons id ids ih =>
    rcases ih h with h1 | h1
    · obtain ⟨p', hp', e⟩ := List.mem_map.mp h1
      rcases mem_bump hp' with ⟨q, hq, hqp, _⟩ | rfl
      · have hq1 : q.1 ∈ cnt.map (·.1) := List.mem_map_of_mem hq
        rw [hqp, e] at hq1
        exact .inl hq1
      · exact .inr (e ▸ List.mem_cons_self)
    · exact .inr (List.mem_cons_of_mem _ h1)

theorem tokenLoop_inv {K1 w : Bytes} {n j0 : Nat} {tk : List Nat} (h : tokenLoop cfg lv K1 w n j0 = .ok tk) :
    tk.length = n ∧ ∀ i a, tk[i]? = some a → addr cfg lv K1 w ((j0 + i : Nat) : Int) = .ok a := by
  induction n generalizing j0 tk with
  | zero => cases h; exact ⟨rfl, fun i a hi => by cases hi⟩
  | succ m ih =>
    simp only [tokenLoop, ok_inv] at h
    obtain ⟨a, ha, rest, hrest, rfl⟩ := h
    obtain ⟨hl, hg⟩ := ih hrest
    refine ⟨by rw [List.length_cons, hl], fun i b hi => ?_⟩
    cases i with
    | zero =>
      cases hi
      exact ha
    | succ i =>
      rw [show j0 + (i + 1) = j0 + 1 + i by omega]
      exact hg i b hi

/-- the write is `ins`; `bump` is the counter update, which the model spells as an inline `match` -/
theorem encList_cons (K1 w : Bytes) (j : Nat) (id : Bytes) (rest : List Bytes) (I : ITable) (cnt : List (Bytes × Nat)) :
    encList cfg lv K1 w j (id :: rest) I cnt =
      (addr cfg lv K1 w j >>= fun a => encList cfg lv K1 w (j + 1) rest (ins I (a, id)) (bump cnt id)) :=
  rfl

theorem encList_eq_ok {K1 w : Bytes} {j0 : Nat} {ids : List Bytes} {I : ITable} {cnt : List (Bytes × Nat)}
    {r : ITable × List (Bytes × Nat)} :
    encList cfg lv K1 w j0 ids I cnt = .ok r ↔
      ∃ as, tokenLoop cfg lv K1 w ids.length j0 = .ok as ∧ r = ((as.zip ids).foldl ins I, ids.foldl bump cnt) := by
  induction ids generalizing j0 I cnt with
  | nil =>
    constructor
    · intro h
      cases h
      exact ⟨[], rfl, rfl⟩
    · rintro ⟨_, has, rfl⟩
      cases has
      rfl
  | cons id rest ih =>
    simp only [encList_cons, tokenLoop, List.length_cons, ok_inv, ih]
    have hcons : ∀ a as, ((a :: as).zip (id :: rest)).foldl ins I = (as.zip rest).foldl ins (ins I (a, id)) :=
      fun _ _ => rfl
    constructor
    · rintro ⟨a, ha, as, has, rfl⟩
      exact ⟨a :: as, ⟨a, ha, as, has, rfl⟩, by rw [hcons, List.foldl_cons]⟩
    · rintro ⟨_, ⟨a, ha, as, has, rfl⟩, rfl⟩
      exact ⟨a, ha, as, has, by rw [hcons, List.foldl_cons]⟩

variable (cfg lv) in
/-- the writes `(address, identifier)` of `setup`, in the order it makes them: `(π(w ‖ 1+i), ids[i])` for every posting
    (`mem_writes`); an error where an address computation fails -/
def writes (K1 : Bytes) : DB → Except Err (List (Nat × Bytes))
  | [] => .ok []
  | (w, ids) :: rest => do
    let as ← tokenLoop cfg lv K1 w ids.length 1
    let ws ← writes K1 rest
    pure (as.zip ids ++ ws)

theorem writes_cons {K1 w : Bytes} {ids : List Bytes} {rest : DB} {r : List (Nat × Bytes)} :
    writes cfg lv K1 ((w, ids) :: rest) = .ok r ↔
      ∃ as, tokenLoop cfg lv K1 w ids.length 1 = .ok as ∧ ∃ ws, writes cfg lv K1 rest = .ok ws ∧ as.zip ids ++ ws = r := by
  simp only [writes, ok_inv]

theorem encDb_eq_ok {K1 : Bytes} {db : DB} {I : ITable} {cnt : List (Bytes × Nat)} {r : ITable × List (Bytes × Nat)} :
    encDb cfg lv K1 db I cnt = .ok r ↔
      ∃ ws, writes cfg lv K1 db = .ok ws ∧ r = (ws.foldl ins I, (db.flatMap (·.2)).foldl bump cnt) := by
  induction db generalizing I cnt with
  | nil =>
    constructor
    · intro h
      cases h
      exact ⟨[], rfl, rfl⟩
    · rintro ⟨_, hws, rfl⟩
      cases hws
      rfl
  | cons p rest ih =>
    simp only [encDb, writes, ok_inv, encList_eq_ok, ih, List.flatMap_cons, List.foldl_append]
    constructor
    · rintro ⟨_, ⟨as, has, rfl⟩, ws, hws, rfl⟩
      exact ⟨_, ⟨as, has, ws, hws, rfl⟩, by rw [List.foldl_append]⟩
    · rintro ⟨_, ⟨as, has, ws, hws, rfl⟩, rfl⟩
      exact ⟨_, ⟨as, has, rfl⟩, ws, hws, by rw [List.foldl_append]⟩

theorem mem_writes {K1 : Bytes} {db : DB} {ws : List (Nat × Bytes)} (h : writes cfg lv K1 db = .ok ws) (e : Nat × Bytes) :
    e ∈ ws ↔ ∃ w ids i, (w, ids) ∈ db ∧ addr cfg lv K1 w ((1 + i : Nat) : Int) = .ok e.1 ∧ ids[i]? = some e.2 := by
  induction db generalizing ws with
  | nil => cases h; simp
  | cons p rest ih =>
    obtain ⟨as, has, ws', hws, rfl⟩ := writes_cons.mp h
    obtain ⟨hl, hg⟩ := tokenLoop_inv has
    rw [List.mem_append, ih hws, List.mem_iff_getElem?]
    simp only [List.getElem?_zip_eq_some, List.mem_cons]
    constructor
    · rintro (⟨i, h1, h2⟩ | ⟨w, ids, i, hm, h12⟩)
      · exact ⟨p.1, p.2, i, .inl rfl, hg i _ h1, h2⟩
      · exact ⟨w, ids, i, .inr hm, h12⟩
    · rintro ⟨w, ids, i, rfl | hm, h1, h2⟩
      · have hi : i < as.length := by
          rw [hl]
          exact (List.getElem?_eq_some_iff.mp h2).1
        have := hg i _ (List.getElem?_eq_getElem hi)
        rw [h1, Except.ok.injEq] at this
        exact .inl ⟨i, by rw [this]; exact List.getElem?_eq_getElem hi, h2⟩
      · exact .inr ⟨w, ids, i, hm, h1, h2⟩

theorem writes_length {K1 : Bytes} {db : DB} {ws : List (Nat × Bytes)} (h : writes cfg lv K1 db = .ok ws) :
    ws.length = db.total := by
  induction db generalizing ws with
  | nil => cases h; rfl
  | cons p rest ih =>
    obtain ⟨as, has, ws', hws, rfl⟩ := writes_cons.mp h
    have hzip : (as.zip p.2).length = p.2.length := by
      rw [List.length_zip, (tokenLoop_inv has).1, Nat.min_self]
    rw [List.length_append, hzip, ih hws, DB.total_cons]

theorem writes_nodup (hh : HmacLen lv) (hlbits : 0 < (cfg.l * 8).toNat) (hbits : 0 < cfg.bitsNM)
    {K1 : Bytes} {db : DB} (hkeys : (db.map (·.1)).Nodup) (hvalid : ∀ p ∈ db, NoLeadingNul p.1) {ws : List (Nat × Bytes)}
    (h : writes cfg lv K1 db = .ok ws) : (ws.map (·.1)).Nodup := by
  induction db generalizing ws with
  | nil => cases h; exact List.nodup_nil
  | cons p rest ih =>
    obtain ⟨as, has, ws', hws, rfl⟩ := writes_cons.mp h
    obtain ⟨hlen, hg⟩ := tokenLoop_inv has
    have hp := hvalid p List.mem_cons_self
    rw [List.map_cons, List.nodup_cons] at hkeys
    rw [List.map_append, List.map_fst_zip (Nat.le_of_eq hlen), List.nodup_append]
    refine ⟨List.pairwise_iff_getElem.mpr fun i j hi hj hij e => ?_,
      ih hkeys.2 (fun q hq => hvalid q (List.mem_cons_of_mem _ hq)) hws, fun a ha b hb e => ?_⟩
    · -- two addresses of this keyword: equal only at equal positions
      have hai := hg i _ (List.getElem?_eq_getElem hi)
      have haj := hg j _ (List.getElem?_eq_getElem hj)
      have := (addr_inj hh hlbits hbits hp hp hai (e ▸ haj)).2
      omega
    · -- an address of this keyword and one of a later keyword: equal only for equal keywords, and keywords are distinct
      obtain ⟨i, hi⟩ := List.mem_iff_getElem?.mp ha
      obtain ⟨q, hq, rfl⟩ := List.mem_map.mp hb
      obtain ⟨w', ids', i', hm, ha', _⟩ := (mem_writes hws q).mp hq
      have := (addr_inj hh hlbits hbits hp (hvalid _ (List.mem_cons_of_mem _ hm)) (hg i _ hi) (e ▸ ha')).1
      exact hkeys.1 (this ▸ List.mem_map_of_mem hm)

variable (cfg lv) in
theorem fillOne_zero (K1 id : Bytes) (n : Int) (l : Nat) (I : ITable) : fillOne cfg lv K1 id n 0 l I = .ok I := rfl

theorem fillAll_noop {K1 : Bytes} {cnt : List (Bytes × Nat)} (n : Int) (I : ITable) (h : ∀ p ∈ cnt, p.2 ≤ cfg.max) :
    fillAll cfg lv K1 cnt n I = .ok I := by
  induction cnt generalizing n I with
  | nil => rfl
  | cons p rest ih =>
    have hc : p.2 - cfg.max = 0 := Nat.sub_eq_zero_of_le (h p List.mem_cons_self)
    simp only [fillAll, hc, fillOne_zero, ok_bind]
    exact ih _ _ (fun q hq => h q (List.mem_cons_of_mem _ hq))

theorem mem_fillOne {K1 id : Bytes} {n : Int} {more l : Nat} {I I' : ITable} (h : fillOne cfg lv K1 id n more l I = .ok I')
    {e : Nat × Bytes} (he : e ∈ I') : e ∈ I ∨ (e.2 = id ∧ ∃ j, addr cfg lv K1 (zeros cfg.l.toNat) j = .ok e.1) := by
  induction more generalizing l I with
  | zero => cases h; exact .inl he
  | succ m ih =>
    simp only [fillOne, ok_inv] at h
    obtain ⟨a, ha, h⟩ := h
    rcases ih h with h1 | h1
    · rcases mem_iinsert h1 with h2 | rfl
      · exact .inl h2
      · exact .inr ⟨rfl, _, ha⟩
    · exact .inr h1

theorem mem_fillAll {K1 : Bytes} {cnt : List (Bytes × Nat)} {n : Int} {I I' : ITable} (h : fillAll cfg lv K1 cnt n I = .ok I')
    {e : Nat × Bytes} (he : e ∈ I') :
    e ∈ I ∨ (e.2 ∈ cnt.map (·.1) ∧ ∃ j, addr cfg lv K1 (zeros cfg.l.toNat) j = .ok e.1) := by
  induction cnt generalizing n I with
  | nil => cases h; exact .inl he
  | cons p rest ih =>
    simp only [fillAll, ok_inv] at h
    obtain ⟨I1, h1, h⟩ := h
    rcases ih h with h2 | ⟨h2, h3⟩
    · rcases mem_fillOne h1 h2 with h4 | ⟨h4, h5⟩
      · exact .inl h4
      · exact .inr ⟨h4 ▸ List.mem_cons_self, h5⟩
    · exact .inr ⟨List.mem_cons_of_mem _ h2, h3⟩

theorem setup_inv {K1 : Bytes} {db : DB} {I : ITable} (h : setup cfg lv K1 db = .ok I) :
    ∃ ws, writes cfg lv K1 db = .ok ws ∧
      (fillAll cfg lv K1 ((db.flatMap (·.2)).foldl bump []) cfg.n (ws.foldl ins []) = .ok I ∨ ws.foldl ins [] = I) := by
  simp only [setup, ok_inv] at h
  obtain ⟨⟨I0, cnt⟩, hr, h⟩ := h
  obtain ⟨ws, hws, hI⟩ := encDb_eq_ok.mp hr
  cases hI
  refine ⟨ws, hws, ?_⟩
  rcases h with ⟨_, hfill⟩ | ⟨_, hsame⟩
  · exact .inl hfill
  · exact .inr hsame

/-- the index is the list of the writes: `hcap` makes the filler loop empty, `hn` makes every write an append -/
theorem setup_index {K1 : Bytes} {db : DB} {I : ITable} (hs : setup cfg lv K1 db = .ok I)
    (hcap : ∀ I0 cnt, encDb cfg lv K1 db [] [] = .ok (I0, cnt) → ∀ p ∈ cnt, p.2 ≤ cfg.max)
    (hn : ∀ ws, writes cfg lv K1 db = .ok ws → (ws.map (·.1)).Nodup) : writes cfg lv K1 db = .ok I := by
  obtain ⟨ws, hws, hI⟩ := setup_inv hs
  have hI : ws.foldl ins [] = I := by
    rcases hI with hI | hI
    · rw [fillAll_noop _ _ (hcap _ _ (encDb_eq_ok.mpr ⟨ws, hws, rfl⟩))] at hI
      exact Except.ok.inj hI
    · exact hI
  rw [← hI, foldl_ins_fresh _ _ (by simpa using hn ws hws), List.nil_append]
  exact hws

/-- reading a token against the index: a hit returns the stored identifier, the first miss ends the search -/
theorem search_prefix (I : ITable) (ids : List Bytes) (tk : List Nat) (hlen : ids.length ≤ tk.length)
    (h : ∀ i (hi : i < tk.length), i ≤ ids.length → I.lookup tk[i] = ids[i]?) : search I tk = ids := by
  induction tk generalizing ids with
  | nil =>
    rw [List.eq_nil_of_length_eq_zero (Nat.le_zero.mp hlen)]
    rfl
  | cons a tk ih =>
    have h0 := h 0 (Nat.zero_lt_succ _) (Nat.zero_le _)
    cases ids with
    | nil =>
      simp only [search, List.getElem_cons_zero, List.getElem?_nil] at h0 ⊢
      rw [h0]
    | cons id ids =>
      simp only [List.getElem_cons_zero, List.getElem?_cons_zero] at h0
      simp only [search, h0]
      rw [ih ids (Nat.le_of_succ_le_succ hlen) fun i hi hle => h (i + 1) (Nat.succ_lt_succ hi) (Nat.succ_le_succ hle)]

/-- `hids`: `(w, ids) ∈ db` is the stored keyword (C01), `ids = []` the absent one (C02) -/
theorem search_writes {K1 : Bytes} {db : DB} {ws : List (Nat × Bytes)} (hws : writes cfg lv K1 db = .ok ws)
    (hn : (ws.map (·.1)).Nodup) {w : Bytes} {n : Nat} {tk : List Nat} (htk : tokenLoop cfg lv K1 w n 1 = .ok tk)
    (ids : List Bytes) (hids : ids = [] ∨ (w, ids) ∈ db) (hlen : ids.length ≤ n)
    (hend : ids.length < n → ∀ a, addr cfg lv K1 w ((1 + ids.length : Nat) : Int) = .ok a → a ∉ ws.map (·.1)) :
    search ws tk = ids := by
  obtain ⟨tl, tg⟩ := tokenLoop_inv htk
  refine search_prefix ws ids tk (by omega) fun i hi hle => ?_
  have ha := tg i _ (List.getElem?_eq_getElem hi)
  by_cases hlt : i < ids.length
  · have hne : ids ≠ [] := fun e => by
      rw [e] at hlt
      cases hlt
    have hm : (w, ids) ∈ db := hids.resolve_left hne
    rw [List.getElem?_eq_getElem hlt]
    exact lookup_eq_some_of_mem hn ((mem_writes hws _).mpr ⟨w, ids, i, hm, ha, List.getElem?_eq_getElem hlt⟩)
  · have : i = ids.length := by omega
    subst this
    rw [List.getElem?_eq_none (Nat.le_refl _)]
    exact lookup_eq_none_of_not_mem (hend (by omega) _ ha)

theorem search_setup (hh : HmacLen lv) (hlbits : 0 < (cfg.l * 8).toNat) (hbits : 0 < cfg.bitsNM)
    {K1 : Bytes} {db : DB} (hkeys : (db.map (·.1)).Nodup) (hvalid : ∀ p ∈ db, NoLeadingNul p.1) {I : ITable}
    (hs : setup cfg lv K1 db = .ok I)
    (hcap : ∀ I0 cnt, encDb cfg lv K1 db [] [] = .ok (I0, cnt) → ∀ p ∈ cnt, p.2 ≤ cfg.max) {w : Bytes}
    (hw : NoLeadingNul w) (hlen : (db.get w).length ≤ cfg.n.toNat) {tk : List Nat} (htk : token cfg lv K1 w = .ok tk) :
    search I tk = db.get w := by
  have hws := setup_index hs hcap fun _ h => writes_nodup hh hlbits hbits hkeys hvalid h
  refine search_writes hws (writes_nodup hh hlbits hbits hkeys hvalid hws) htk _ (DB.get_mem db w) hlen
    fun _ a ha hmem => ?_
  -- a write at the address one past the end of the list is a posting of `w` beyond its list
  obtain ⟨q, hq, rfl⟩ := List.mem_map.mp hmem
  obtain ⟨w', ids', i, hm, ha', hi⟩ := (mem_writes hws q).mp hq
  obtain ⟨rfl, hj⟩ := addr_inj hh hlbits hbits hw (hvalid _ hm) ha ha'
  rw [DB.get_of_mem hkeys hm] at hj
  have := (List.getElem?_eq_some_iff.mp hi).1
  omega

end SSE2
end SSEPy.Sch
