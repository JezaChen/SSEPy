/-
  CT14, the error side: for a non-empty database of non-empty lists (on an empty one Python raises: `log2(0)`), a key of
  `param_k` bytes and an accepted configuration, `EDBSetup` can only fail with `.miss`.  In particular no IndexError: a chunk
  of 2^j identifiers is pushed to level j ≤ ⌊log2 |DB(w)|⌋ ≤ t, and there are t + 1 levels (/repo commit f819d98).
-/
import SSEPyVerif.Proofs.Schemes.CT14
namespace SSEPy.Sch

namespace CT14

variable (cfg : CT14Cfg) (lv : Leaves)

variable (hl : LeafLaws lv) (hu : Usable cfg)
include hl hu

theorem token_returns (K w : Bytes) (hK : (K.length : Int) = cfg.k) :
    ∃ K0 K1, token cfg lv K w = .ok (K0, K1) ∧ (K0.length : Int) = cfg.k ∧ (K1.length : Int) = cfg.kPrime := by
  obtain ⟨x, hcall, _⟩ := prf_returns hl.hmac_len hu.fHash (key := K) (msg := w) (Or.inr (by rw [hK, hu.fKey])) (Or.inl hu.fMsg)
  have hk := Int.le_of_lt hu.kpos
  have hk' := Int.le_of_lt hu.kPpos
  have htk := token_eq_ok.mpr ⟨x, hcall, rfl, rfl⟩
  obtain ⟨h0, h1⟩ := token_lens hl hu.fHash hu.fOut hk hk' htk
  exact ⟨_, _, htk, by rw [h0, Int.toNat_of_nonneg hk], by rw [h1, Int.toNat_of_nonneg hk']⟩

theorem chunkLoop_onlyMiss (Kw0 Kw1 : Bytes) (ids : List Bytes) (j1 c : Nat) (Ls : List (List (Bytes × Bytes))) (t : Tape)
    (h0 : (Kw0.length : Int) = cfg.k) (h1 : (Kw1.length : Int) = cfg.kPrime) (hj : j1 ≤ Ls.length) :
    OnlyMiss (chunkLoop cfg lv Kw0 Kw1 ids j1 c Ls t) := by
  induction j1 generalizing c Ls t with
  | zero => exact OnlyMiss.ok _
  | succ j ih =>
    unfold chunkLoop
    dsimp only
    split
    · exact ih _ _ _ (Nat.le_of_succ_le hj)
    · apply OnlyMiss.bind (encAll_onlyMiss cfg.ske lv hu.plain Kw1 _ t (by rw [h1, hu.skeKey]))
      intro ⟨cs, t1⟩ _
      obtain ⟨l, hcall, _⟩ := prf_returns hl.hmac_len hu.pHash (key := Kw0) (msg := natToBytesMin j)
        (Or.inr (by rw [h0, hu.pKey])) (Or.inl hu.pMsg)
      apply OnlyMiss.bind_ok hcall
      obtain ⟨Ls', hLs', hlen'⟩ := pushAt_returns Ls (l, cs.flatten) hj
      apply OnlyMiss.bind_ok hLs'
      exact ih _ _ _ (hlen'.symm ▸ Nat.le_of_succ_le hj)

theorem encDb_onlyMiss (K : Bytes) (hK : (K.length : Int) = cfg.k) (db : DB) (Ls : List (List (Bytes × Bytes))) (t : Tape)
    (hlen : ∀ p ∈ db, 1 ≤ p.2.length ∧ Nat.log2 p.2.length + 1 ≤ Ls.length) :
    OnlyMiss (encDb cfg lv K db Ls t) := by
  induction db generalizing Ls t with
  | nil => exact OnlyMiss.ok _
  | cons q rest ih =>
    obtain ⟨w, ids⟩ := q
    obtain ⟨⟨h1, h2⟩, hrest⟩ := List.forall_mem_cons.mp hlen
    dsimp only at h1 h2
    obtain ⟨K0, K1, htk, hk0, hk1⟩ := token_returns cfg lv hl hu K w hK
    unfold encDb
    apply OnlyMiss.bind_ok htk
    dsimp only
    rw [if_neg (Nat.ne_of_gt h1)]
    apply OnlyMiss.bind (chunkLoop_onlyMiss cfg lv hl hu K0 K1 ids _ 0 Ls t hk0 hk1 h2)
    intro ⟨Ls1, t1⟩ hcl
    -- the loop keeps the number of levels
    obtain ⟨es, hf, _⟩ := chunkLoop_inv hcl (chunk_start _)
    exact ih _ _ fun p hp => (pushAll_inv hf).1 ▸ hrest p hp

theorem setupLists_onlyMiss (K : Bytes) (hK : (K.length : Int) = cfg.k) (db : DB) (t : Tape) (hne : db ≠ [])
    (hlists : ∀ p ∈ db, 1 ≤ p.2.length) : OnlyMiss (setupLists cfg lv K db t) := by
  unfold setupLists
  dsimp only
  rw [if_neg (DB.total_ne_zero hne hlists)]
  generalize htt : clog2 db.total = tt
  have hcap : db.total ≤ 2 ^ tt := htt ▸ le_two_pow_clog2 _
  apply OnlyMiss.bind (padLoop_onlyMiss _ _ _ db db.total t (Nat.lt_succ_of_le (Nat.sub_le _ _)))
  intro ⟨pdb, t1⟩ hpad
  -- a list of the padded database has at most `2^tt` identifiers, so its top chunk has a level
  have hlev : ∀ p ∈ pdb, 1 ≤ p.2.length ∧
      Nat.log2 p.2.length + 1 ≤ (List.replicate (tt + 1) ([] : List (Bytes × Bytes))).length := by
    intro p hp
    obtain ⟨h1, h2⟩ := padLoop_bounds hpad hlists hcap p hp
    rw [List.length_replicate]
    exact ⟨h1, Nat.succ_le_succ (log2_le _ _ h1 h2)⟩
  apply OnlyMiss.bind (encDb_onlyMiss cfg lv hl hu K hK pdb _ t1 hlev)
  intro ⟨Ls, t2⟩ _
  exact padLevels_onlyMiss cfg lv hu.plain (by rw [hu.skeKey, Int.toNat_of_nonneg (Int.le_of_lt hu.kPpos)]) tt 0 Ls t2

theorem setup_onlyMiss (K : Bytes) (hK : (K.length : Int) = cfg.k) (db : DB) (t : Tape) (hne : db ≠ [])
    (hlists : ∀ p ∈ db, 1 ≤ p.2.length) : OnlyMiss (setup cfg lv K db t) := by
  unfold setup
  apply OnlyMiss.bind (setupLists_onlyMiss cfg lv hl hu K hK db t hne hlists)
  intro ⟨TL, t'⟩ _
  exact OnlyMiss.ok _

end CT14
end SSEPy.Sch
