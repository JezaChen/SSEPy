/-
  A call of the bit-level PRP of C15 with a key made from bytes, as SSE-1 (ψ, π) and SSE-2 (π) make it.  A call that returned
  is undone by `prpDec`, which depends on the key bytes only: that is all injectivity of ψ, π and of SSE-2's addresses rests on.
-/
import SSEPyVerif.Props.C15
import SSEPyVerif.Proofs.Schemes.Prims
namespace SSEPy

namespace Sch

/-- the PRP backwards: the key bits made from `K` as `psi` and `piBytes` make them, then FFX decryption with the round
    function `bitwiseFpePrp` uses -/
def prpDec (lv : Leaves) (K : Bytes) (kb : Nat) (a : Bitset) : Except Err Bitset := do
  let key ← Bitset.ofBytes K kb
  ffxDecrypt (ffxRound lv.hmac 20 (← key.toBytes)) DEFAULT_ROUNDS a

theorem bitwiseFpePrp_inv {lv : Leaves} (hh : HmacLen lv) {K : Bytes} {kb v n : Nat} (hn : 2 ≤ n) {nI kI : Int}
    {key m out : Bitset} (hkey : Bitset.ofBytes K kb = .ok key) (hm : Bitset.mk' v n = .ok m)
    (h : bitwiseFpePrp lv.hmac 20 nI kI key m = .ok out) :
    out.WF ∧ out.length = n ∧ prpDec lv K kb ⟨out.value, n⟩ = .ok ⟨v, n⟩ := by
  obtain ⟨hkw, _, _⟩ := Bitset.ofBytes_inv hkey
  obtain ⟨hv, rfl⟩ := (Bitset.mk'_eq_ok (by omega)).mp hm
  obtain ⟨kbytes, w, hkb, hw, hww, hwl, hd⟩ := C15.bit_prp_is_ffx lv.hmac 20 hh (by decide) key ⟨v, n⟩ hkw hv hn
  -- the declared widths are the actual ones, or the call would have been refused
  have hk8 : (key.length : Int) = kI := Decidable.of_not_not fun hne => by
    rw [(C15.bit_prp_contracts lv.hmac 20 _ _ key _).1 hne] at h
    cases h
  have hm8 : ((n : Nat) : Int) = nI := Decidable.of_not_not fun hne => by
    rw [(C15.bit_prp_contracts lv.hmac 20 _ _ key ⟨v, n⟩).2 hk8 hne] at h
    cases h
  rw [← hk8, ← hm8, hw] at h
  cases h
  refine ⟨hww, hwl, ?_⟩
  simp only [prpDec, hkey, hkb, ok_bind]
  rwa [show (⟨out.value, n⟩ : Bitset) = out from congrArg (Bitset.mk out.value) hwl.symm]

theorem bitwiseFpePrp_returns {lv : Leaves} (hh : HmacLen lv) {K : Bytes} {k : Int} (hK : (K.length : Int) = k) {v n : Nat}
    (hv : v < 2 ^ n) (hn : 2 ≤ n) :
    ∃ key, Bitset.ofBytes K (k * 8).toNat = .ok key ∧
      ∃ out, bitwiseFpePrp lv.hmac 20 n (k * 8) key ⟨v, n⟩ = .ok out ∧ out.WF := by
  obtain ⟨hkey, hklt, ek⟩ := Bitset.ofBytes_returns K k (Int.le_of_eq hK)
  obtain ⟨_, out, _, ho, how, _⟩ := C15.bit_prp_is_ffx lv.hmac 20 hh (by decide) ⟨fromBE K, (k * 8).toNat⟩ ⟨v, n⟩
    hklt hv hn
  rw [ek] at ho
  exact ⟨_, hkey, out, ho, how⟩

end Sch
end SSEPy
