/-
  DP17: `Setup` read backwards.  The bucket a chunk goes to depends on the tape and on what the earlier chunks filled, so
  the index has no closed form: each loop that builds it has a rule (`placeChunks_rule`, `encDb_rule`, `finishLevels_rule`)
  that carries an invariant from pass to pass, a pass being a record (`ChunkStep`, `KwStep`, `LevelStep`).  A fact that
  singles out one pass goes by `_cons` and induction instead: `encDb_stored` (what the first keyword stores, the rest of
  the run keeps) and `finishLevels_shape` of DP17Index (the level finished in a pass is none of those to come).
-/
import SSEPyVerif.Proofs.Schemes.SSE1Setup
import SSEPyVerif.Model.Schemes.DP17
namespace SSEPy.Sch.DP17
open SSEPy.Sch

variable (cfg : DP17Cfg) (lv : Leaves)

structure Parsed (raw : RawCfg) : Prop where
  positive : checkParamPositive raw = .ok ()
  exist : checkParamExist
    ["param_lambda", "param_actual_storage_level_ratio", "param_L", "param_identifier_size", "rnd", "prf_f", "hash_h"] raw = .ok ()
  getLambda : getInt raw "param_lambda" = .ok cfg.lambda
  getL : getInt raw "param_L" = .ok cfg.L
  getIdSize : getInt raw "param_identifier_size" = .ok cfg.idSize
  rnd : AESxCBC.new cfg.lambda = .ok cfg.rnd
  prfF : cfg.prfF = HmacPRF.new cfg.lambda cfg.lambda LENGTH_UNLIMITED 20
  cipherLen : cfg.cipherLen = 16 + 16 * ((cfg.idSize + cfg.lambda).toNat / 16 + 1)

theorem cfgBuild_inv (raw : RawCfg) (h : DP17.cfgBuild raw = .ok cfg) : Parsed cfg raw := by
  simp only [DP17.cfgBuild, ok_inv] at h
  obtain ⟨_, hpos, _, hex, lam, hlam, h⟩ := h
  -- a `let … ← match …` is a match around the rest of the block: one `split` for the ratio (a float or an int), one for the
  -- digest size; the other arms throw
  split at h <;> simp only [ok_inv] at h
  all_goals
    obtain ⟨_, _, L, hL, ids, hids, _, rnd, hrnd, _, h⟩ := h
    split at h <;> simp only [ok_inv] at h
    obtain ⟨_, _, rfl⟩ := h
    exact
      { positive := hpos, exist := hex, getLambda := hlam, getL := hL, getIdSize := hids, rnd := hrnd, prfF := rfl,
        cipherLen := rfl }

theorem cfgBuild_accepted (raw : RawCfg) (h : DP17.cfgBuild raw = .ok cfg) :
    PlainSke cfg.rnd ∧ 0 ≤ cfg.lambda ∧ cfg.cipherLen = 16 + 16 * ((cfg.idSize + cfg.lambda).toNat / 16 + 1) := by
  have p := cfgBuild_inv cfg raw h
  have hlam : 0 ≤ cfg.lambda := by
    have := new_keyLength _ _ p.rnd
    omega
  exact ⟨(new_plain _ _ p.rnd).1, hlam, p.cipherLen⟩

/-- the level list for `N` postings: `levelsOf` cannot fail.  The number of levels comes out of `ceilMulFloat` (IEEE double
    arithmetic, opaque to the kernel), so nothing is proved about the entries: that the list ascends, has no negative and no
    repeated level and that some level fits a list are hypotheses wherever they are needed -/
def levelsList (N : Nat) : List Int :=
  match levelsOf cfg N with
  | .ok levels => levels
  | .error _ => []

theorem levelsOf_eq (N : Nat) : levelsOf cfg N = .ok (levelsList cfg N) := by
  -- the body of `levelsOf` is a row of `let`s that ends in `pure`
  obtain ⟨levels, h⟩ : ∃ levels, levelsOf cfg N = .ok levels := ⟨_, rfl⟩
  rw [levelsList, h]

/-- what a returned search says: `r` is a level of the list, and it fits if the level just above `hi` (when the list has
    one) does, whatever the order of the list -/
theorem findLoop_inv {levels : List Int} {n fuel : Nat} {lo hi r : Int} (h : findLoop cfg levels n fuel lo hi = .ok r) :
    r ∈ levels ∧ ((∀ lev, levels[(hi + 1).toNat]? = some lev → fits cfg lev n = true) → lo ≤ hi + 1 → fits cfg r n = true) := by
  induction fuel generalizing lo hi with
  | zero => cases h
  | succ f ih =>
    simp only [findLoop] at h
    split at h
    · -- `lo ≤ hi`: the search goes on from the level at `mid`
      split at h
      · cases h
      · rename_i lev hlev
        split at h
        · -- it fits, and is the level just above the new `hi`, `mid - 1`
          rename_i hf
          obtain ⟨hmem, hfit⟩ := ih h
          have habove : ∀ lev', levels[((lo + hi) / 2 - 1 + 1).toNat]? = some lev' → fits cfg lev' n = true := by
            intro lev' hl'
            rw [show (lo + hi) / 2 - 1 + 1 = (lo + hi) / 2 by omega, hlev] at hl'
            cases hl'
            exact hf
          exact ⟨hmem, fun _ _ => hfit habove (by omega)⟩
        · -- it does not fit: `hi` stays
          obtain ⟨hmem, hfit⟩ := ih h
          exact ⟨hmem, fun hinv _ => hfit hinv (by omega)⟩
    · -- `hi < lo`: level `lo` is returned, and `lo = hi + 1`
      split at h
      · rename_i lev hlev
        cases h
        split at hlev
        · cases hlev
        · have hr : r ∈ levels := List.mem_of_getElem? hlev
          exact ⟨hr, fun hinv hle => hinv r (by rwa [show hi + 1 = lo by omega])⟩
      · cases h

theorem ceilDiv_le_of_fits {i n : Nat} (h : fits cfg (i : Int) n = true) : ceilDiv n (2 ^ i) ≤ cfg.L.toNat := by
  have hm : 0 < 2 ^ i := Nat.two_pow_pos i
  simp only [fits, ge_iff_le, Int.natCast_nonneg, if_true, Int.toNat_natCast, decide_eq_true_eq] at h
  -- `L` is not negative, since `L · 2^i ≥ n ≥ 0`
  have hL : 0 ≤ cfg.L := Int.not_lt.mp fun hneg =>
    absurd (Int.mul_neg_of_neg_of_pos hneg (Int.natCast_pos.mpr hm)) (by omega)
  refine (ceilDiv_le_iff hm).mpr ?_
  rw [← Int.toNat_of_nonneg hL] at h
  rw [Nat.mul_comm]
  exact_mod_cast h

theorem findAdjacent_inv {levels : List Int} {n i : Nat} (h : findAdjacent cfg levels n = .ok (i : Int)) :
    (i : Int) ∈ levels ∧ ceilDiv n (2 ^ i) ≤ cfg.L.toNat := by
  unfold findAdjacent at h
  obtain ⟨hmem, hfit⟩ := findLoop_inv cfg h
  -- the search starts with `hi` at the length of the list: there is no level above it
  have hnone : ∀ lev, levels[((levels.length : Int) + 1).toNat]? = some lev → fits cfg lev n = true := by
    intro lev hl
    rw [List.getElem?_eq_none (by omega)] at hl
    cases hl
  exact ⟨hmem, ceilDiv_le_of_fits cfg (hfit hnone (by omega))⟩

def InBucket (lvl : Level) (x : Nat) (e : Entry) : Prop := ∃ b, lvl.buckets[x]? = some b ∧ e ∈ b

/-- the two lists `_divide_to_buckets` returns stay aligned: one free-cell count per bucket -/
def WFL (lvl : Level) : Prop := lvl.remaining.length = lvl.buckets.length

/-- the real entries of a bucket satisfy `P`; the dummies (`none`) are not asked -/
def EntP (P : Bytes → Bytes → Prop) (es : List Entry) : Prop := ∀ w id, some (w, id) ∈ es → P w id

theorem EntP.imp {P Q : Bytes → Bytes → Prop} {es : List Entry} (hPQ : ∀ w id, P w id → Q w id) (h : EntP P es) : EntP Q es :=
  fun w id hm => hPQ w id (h w id hm)

/-- the cell counts of the buckets of level `i` -/
def sizesOf (N : Nat) (i : Int) : List Nat := (divideToBuckets (2 * N + 2 ^ (i + 1).toNat) (2 ^ (i + 1).toNat)).1

/-- in every bucket: stored entries + free cells = cells.  Of the three invariants of a level this is the middle one: `WFL`
    is what it takes to say where a chunk went, `BInv` gives the shape of the arrays, `LInv` (DP17Room) adds the count that
    guarantees room -/
structure BInv (sizes : List Nat) (lvl : Level) : Prop where
  remaining : lvl.remaining.length = sizes.length
  buckets : lvl.buckets.length = sizes.length
  cells : ∀ (x : Nat) (b : List Entry) (r s : Nat), lvl.buckets[x]? = some b → lvl.remaining[x]? = some r →
    sizes[x]? = some s → b.length + r = s

theorem BInv.wfl {sizes : List Nat} {lvl : Level} (h : BInv sizes lvl) : WFL lvl := h.remaining.trans h.buckets.symm

/-- the buckets that can still take a chunk of `2^i` entries -/
def cands (i : Nat) (lvl : Level) : List Nat := (lvl.remaining.zipIdx.filter fun p => p.1 ≥ 2 ^ i).map (·.2)

/-- the level after chunk `c` of keyword `w` went to bucket `x` -/
def put (w : Bytes) (lvl : Level) (x : Nat) (c : List Bytes) : Level :=
  { lev := lvl.lev, remaining := lvl.remaining.mapIdx fun j r => if j = x then r - c.length else r,
    buckets := addTo lvl.buckets x (c.map fun id => some (w, id)) }

theorem getElem?_addTo (l : List (List Entry)) (x : Nat) (es : List Entry) (j : Nat) :
    (addTo l x es)[j]? = l[j]?.map fun b => if j = x then b ++ es else b :=
  List.getElem?_mapIdx

theorem length_addTo (l : List (List Entry)) (x : Nat) (es : List Entry) : (addTo l x es).length = l.length :=
  List.length_mapIdx

section put
variable {w : Bytes} {lvl : Level} {x i : Nat} {c : List Bytes}

theorem mem_cands : x ∈ cands i lvl ↔ ∃ r, lvl.remaining[x]? = some r ∧ 2 ^ i ≤ r := by
  simp only [cands, List.mem_map, List.mem_filter, Prod.exists, List.mk_mem_zipIdx_iff_getElem?, decide_eq_true_eq]
  exact ⟨fun ⟨r, j, ⟨h1, h2⟩, e⟩ => ⟨r, e ▸ h1, h2⟩, fun ⟨r, h1, h2⟩ => ⟨r, x, ⟨h1, h2⟩, rfl⟩⟩

theorem put_wfl (h : WFL lvl) : WFL (put w lvl x c) := by
  unfold WFL at h ⊢
  simpa [put, length_addTo] using h

theorem put_inBucket {y : Nat} {e : Entry} (h : InBucket lvl y e) : InBucket (put w lvl x c) y e := by
  obtain ⟨b, hb, he⟩ := h
  refine ⟨if y = x then b ++ c.map (fun id => some (w, id)) else b, by simp [put, getElem?_addTo, hb], ?_⟩
  split
  · exact List.mem_append_left _ he
  · exact he

theorem cands_lt (hwf : WFL lvl) (hx : x ∈ cands i lvl) : x < lvl.buckets.length := by
  obtain ⟨r, hr, _⟩ := mem_cands.mp hx
  exact hwf ▸ (List.getElem?_eq_some_iff.mp hr).1

theorem put_new (hwf : WFL lvl) (hx : x ∈ cands i lvl) {id : Bytes} (hid : id ∈ c) :
    InBucket (put w lvl x c) x (some (w, id)) := by
  have hlt := cands_lt hwf hx
  exact ⟨lvl.buckets[x] ++ c.map fun id => some (w, id), by simp [put, getElem?_addTo, hlt],
    List.mem_append_right _ (List.mem_map.mpr ⟨id, hid, rfl⟩)⟩

theorem put_entP {P : Bytes → Bytes → Prop} (h : ∀ b ∈ lvl.buckets, EntP P b) (hc : ∀ id ∈ c, P w id) :
    ∀ b ∈ (put w lvl x c).buckets, EntP P b := by
  intro b hb w' id' hm
  obtain ⟨j, hj⟩ := List.mem_iff_getElem?.mp hb
  simp only [put, getElem?_addTo, Option.map_eq_some_iff] at hj
  obtain ⟨b0, hb0, rfl⟩ := hj
  have hold := h b0 (List.mem_of_getElem? hb0) w' id'
  split at hm
  · rcases List.mem_append.mp hm with hm | hm
    · exact hold hm
    · obtain ⟨id0, hid, e⟩ := List.mem_map.mp hm
      cases e
      exact hc _ hid
  · exact hold hm

theorem BInv.put {sizes : List Nat} (hinv : BInv sizes lvl) (hx : x ∈ cands i lvl) (hc : c.length ≤ 2 ^ i) :
    BInv sizes (put w lvl x c) := by
  obtain ⟨rx, hrx, hroom⟩ := mem_cands.mp hx
  have hrem : (DP17.put w lvl x c).remaining.length = sizes.length := by simp [DP17.put, hinv.remaining]
  have hbuck : (DP17.put w lvl x c).buckets.length = sizes.length := by simp [DP17.put, length_addTo, hinv.buckets]
  refine { remaining := hrem, buckets := hbuck, cells := ?_ }
  intro y b r s hb hr' hs
  simp only [DP17.put, getElem?_addTo, List.getElem?_mapIdx, Option.map_eq_some_iff] at hb hr'
  obtain ⟨b0, hb0, rfl⟩ := hb
  obtain ⟨r0, hr0, rfl⟩ := hr'
  have base := hinv.cells y b0 r0 s hb0 hr0 hs
  by_cases hy : y = x
  · subst hy
    rw [hrx] at hr0; cases hr0
    simp only [if_true, List.length_append, List.length_map]
    omega
  · simpa [hy] using base

end put

def InLevel (ls : List Level) (i : Int) (x : Nat) (e : Entry) : Prop := ∃ lvl, getLevel ls i = some lvl ∧ InBucket lvl x e

theorem getLevel_lev {ls : List Level} {i : Int} {lvl : Level} (h : getLevel ls i = some lvl) : lvl.lev = i := by
  unfold getLevel at h
  have := List.find?_some h
  simpa using this

theorem getLevel_mem {ls : List Level} {i : Int} {lvl : Level} (h : getLevel ls i = some lvl) : lvl ∈ ls :=
  List.mem_of_find?_eq_some h

theorem getLevel_setLevel (ls : List Level) (l' : Level) (i : Int) :
    getLevel (setLevel ls l') i = (getLevel ls i).map fun a => if a.lev == l'.lev then l' else a := by
  unfold getLevel setLevel
  rw [List.find?_map]
  congr 2
  funext a
  simp only [Function.comp]
  split
  · rename_i h; rw [← beq_iff_eq.mp h]
  · rfl

theorem getLevel_setLevel_ne (ls : List Level) (l' : Level) (i : Int) (hi : i ≠ l'.lev) :
    getLevel (setLevel ls l') i = getLevel ls i := by
  rw [getLevel_setLevel]
  cases h : getLevel ls i with
  | none => rfl
  | some a => simp [getLevel_lev h, hi]

theorem getLevel_setLevel_eq (ls : List Level) (l' : Level) {l : Level} (h : getLevel ls l'.lev = some l) :
    getLevel (setLevel ls l') l'.lev = some l' := by
  simp [getLevel_setLevel, h, getLevel_lev h]

theorem getLevelE_eq_ok {ls : List Level} {i : Int} {lvl : Level} : getLevelE ls i = .ok lvl ↔ getLevel ls i = some lvl := by
  unfold getLevelE
  cases getLevel ls i with
  | none => simp only [reduceCtorEq]
  | some l => simp only [Except.ok.injEq, Option.some.injEq]

theorem forall_setLevel {P : Level → Prop} {ls : List Level} {lvl : Level} (h : ∀ l ∈ ls, P l) (hl : P lvl) :
    ∀ l ∈ setLevel ls lvl, P l := by
  intro l hm
  obtain ⟨a, ha, rfl⟩ := List.mem_map.mp hm
  split
  · exact hl
  · exact h a ha

theorem InLevel.setLevel {ls : List Level} {j : Int} {lvl lvl1 : Level} (hget : getLevel ls j = some lvl)
    (hmono : ∀ x e, InBucket lvl x e → InBucket lvl1 x e) (hlev : lvl1.lev = lvl.lev) {i : Int} {x : Nat} {e : Entry}
    (h : InLevel ls i x e) :
    InLevel (setLevel ls lvl1) i x e := by
  obtain ⟨l, hl, hb⟩ := h
  rw [getLevel_lev hget] at hlev
  by_cases hi : i = lvl1.lev
  · subst hi
    rw [hlev, hget] at hl; cases hl
    exact ⟨lvl1, getLevel_setLevel_eq ls lvl1 (hlev ▸ hget), hmono x e hb⟩
  · have hl' : getLevel (DP17.setLevel ls lvl1) i = some l := (getLevel_setLevel_ne ls lvl1 i hi).trans hl
    exact ⟨l, hl', hb⟩

theorem getLevel_isSome {ls : List Level} {j : Int} : (getLevel ls j).isSome ↔ j ∈ ls.map (·.lev) := by
  simp only [getLevel, List.find?_isSome, List.mem_map, beq_iff_eq]

theorem setLevel_levs (ls : List Level) (lvl : Level) : (setLevel ls lvl).map (·.lev) = ls.map (·.lev) := by
  simp only [setLevel, List.map_map]
  refine List.map_congr_left fun x _ => ?_
  simp only [Function.comp]
  split
  · rename_i h; exact (beq_iff_eq.mp h).symm
  · rfl

/-- the level `initLevels` makes for the number `i`: the cells of every bucket free, no entry -/
def newLevel (N : Nat) (i : Int) : Level :=
  { lev := i, remaining := sizesOf N i, buckets := (divideToBuckets (2 * N + 2 ^ (i + 1).toNat) (2 ^ (i + 1).toNat)).2 }

theorem newLevel_empty (N : Nat) (i : Int) : ∀ b ∈ (newLevel N i).buckets, b = [] := by
  intro b hb
  simp only [newLevel, divideToBuckets, List.mem_map] at hb
  obtain ⟨_, _, rfl⟩ := hb
  rfl

theorem BInv.newLevel (N : Nat) (i : Int) : BInv (sizesOf N i) (newLevel N i) := by
  have hbuck : (DP17.newLevel N i).buckets.length = (sizesOf N i).length := by
    simp [DP17.newLevel, sizesOf, divideToBuckets]
  refine { remaining := rfl, buckets := hbuck, cells := ?_ }
  intro x b r s hb hr hs
  have hbe : b = [] := newLevel_empty N i b (List.mem_of_getElem? hb)
  cases hs.symm.trans hr
  simp [hbe]

theorem initLevels_inv {N : Nat} {levels : List Int} {acc ls : List Level} (h : initLevels N levels acc = .ok ls) :
    (∀ l ∈ ls, l ∈ acc ∨ l = newLevel N l.lev) ∧ ∀ j, j ∈ levels ∨ j ∈ acc.map (·.lev) → j ∈ ls.map (·.lev) := by
  induction levels generalizing acc with
  | nil => cases h; exact ⟨fun _ hl => .inl hl, fun _ hj => hj.resolve_left (fun h => nomatch h)⟩
  | cons i rest ih =>
    simp only [initLevels, ok_inv] at h
    obtain ⟨ih1, ih2⟩ := ih h.2
    refine ⟨fun l hl => (ih1 l hl).elim (fun hl => ?_) .inr, fun j hj => ih2 j ?_⟩
    · split at hl
      · obtain ⟨a, ha, rfl⟩ := List.mem_map.mp hl
        split
        · exact .inr rfl
        · exact .inl ha
      · rcases List.mem_append.mp hl with hl | hl
        · exact .inl hl
        · cases List.mem_singleton.mp hl; exact .inr rfl
    · rcases hj with hj | hj
      · rcases List.mem_cons.mp hj with rfl | hj
        · right
          split
          · rename_i hs
            rw [setLevel_levs]
            exact getLevel_isSome.mp hs
          · simp
        · exact .inl hj
      · right
        split
        · rwa [setLevel_levs]
        · simp [hj]

/-- the digest function `hash_h` wraps returns digests of one positive length `d`.  Nothing ties `d` to `cfg.dsz`, the digest
    size the configuration reads off the algorithm's name: `hashH` expands or truncates to `cfg.dsz` bytes whatever `d` is -/
structure ShaLen (lv : Leaves) (d : Nat) : Prop where
  pos : 0 < d
  len : ∀ m, (lv.sha m).length = d

theorem hashH_returns {d : Nat} (hsha : ShaLen lv d) (m : Bytes) : ∃ r, hashH cfg lv m = .ok r ∧ r.length = cfg.dsz :=
  C16.ctr_expand_len lv.sha d hsha.len hsha.pos m cfg.dsz

theorem htKey_eq_ok {k1 w : Bytes} {count : Nat} {key : Bytes} :
    htKey cfg lv k1 w count = .ok key ↔
      ∃ tag, cfg.prfF.call lv.hmac k1 w = .ok tag ∧ hashH cfg lv (tag ++ natToBytesMin count) = .ok key := by
  simp only [htKey, ok_inv]

theorem htVal_eq_ok {k2 w : Bytes} {count i x : Nat} {v : Bytes} :
    htVal cfg lv k2 w count i x = .ok v ↔ ∃ ib, intToBytesNat i (cfg.dsz / 2) = .ok ib ∧
      ∃ xb, intToBytesNat x (cfg.dsz - cfg.dsz / 2) = .ok xb ∧ ∃ vtag, cfg.prfF.call lv.hmac k2 w = .ok vtag ∧
      ∃ mask, hashH cfg lv (vtag ++ natToBytesMin count) = .ok mask ∧ bytesXor (ib ++ xb) mask = .ok v := by
  simp only [htVal, ok_inv]

theorem decode_htVal {k2 w vtag : Bytes} {count i x : Nat} {v : Bytes}
    (hv : htVal cfg lv k2 w count i x = .ok v) (hvt : cfg.prfF.call lv.hmac k2 w = .ok vtag) :
    decodeVal cfg lv vtag count v = .ok (i, x) := by
  obtain ⟨ib, hib, xb, hxb, vtag', hvt', mask, hmask, hv⟩ := (htVal_eq_ok cfg lv).mp hv
  rw [hvt] at hvt'; cases hvt'
  obtain ⟨i1, i2⟩ := C17.int_roundtrip _ _ _ hib
  obtain ⟨x1, x2⟩ := C17.int_roundtrip _ _ _ hxb
  obtain ⟨c, hc1, _, hc2⟩ := C17.xor_involution (ib ++ xb) mask (bytesXor_eq_ok.mp hv).1
  rw [hv] at hc1; cases hc1
  simp only [decodeVal, hmask, hc2, ok_bind, pure_eq]
  rw [← i2, List.take_left, List.drop_left, i1, x1]

theorem htInsert_inv {k1 k2 w : Bytes} {count i x : Nat} {c : List Bytes} {HT HT1 : Table}
    (h : htInsert cfg lv k1 k2 w count i x c HT = .ok HT1) :
    (c = [] ∧ HT1 = HT) ∨ (c ≠ [] ∧ ∃ key v, htKey cfg lv k1 w count = .ok key ∧ htVal cfg lv k2 w count i x = .ok v ∧
      HT1 = tinsert HT key v) := by
  simp only [htInsert, ok_inv, List.isEmpty_iff] at h
  rcases h with ⟨hc, rfl⟩ | ⟨hc, key, hk, v, hv, rfl⟩
  · exact .inl ⟨hc, rfl⟩
  · exact .inr ⟨hc, key, v, hk, hv, rfl⟩

theorem placeChunks_cons {k1 k2 w : Bytes} {i : Nat} {c : List Bytes} {rest : List (List Bytes)} {count : Nat} {lvl : Level}
    {HT : Table} {t : Tape} {r : Level × Table × Tape}
    (h : placeChunks cfg lv k1 k2 w i (c :: rest) count lvl HT t = .ok r) :
    ∃ x t1 HT1, t = .nat x :: t1 ∧ x ∈ cands i lvl ∧ htInsert cfg lv k1 k2 w (count + 1) i x c HT = .ok HT1 ∧
      placeChunks cfg lv k1 k2 w i rest (count + 1) (put w lvl x c) HT1 t1 = .ok r := by
  -- `cands i lvl` and `put w lvl x c` are the model's own expressions
  simp only [placeChunks, ok_inv, Bool.not_eq_true', List.contains_eq_mem, decide_eq_false_iff_not,
    Decidable.not_not] at h
  obtain ⟨_, ⟨x, t1⟩, hr, hc, HT1, hins, h⟩ := h
  exact ⟨x, t1, HT1, takeNat_eq_ok.mp hr, hc, hins, h⟩

/-- one pass of `placeChunks` over `cw`, the chunk counter starting at `count`: chunk `k` (from 0) is `c`, the state before it
    `lvl, HT, .nat x :: t1`, the state after it `put w lvl x c, HT1, t1` -/
structure ChunkStep (k1 k2 w : Bytes) (i : Nat) (cw : List (List Bytes)) (count : Nat) where
  {k : Nat} {c : List Bytes} {lvl : Level} {HT : Table} {x : Nat} {t1 : Tape} {HT1 : Table}
  chunk : cw[k]? = some c
  room : x ∈ cands i lvl
  ins : htInsert cfg lv k1 k2 w (count + k + 1) i x c HT = .ok HT1

/-- `I k` speaks of the state before chunk `k` draws its bucket, the tape included -/
theorem placeChunks_rule {k1 k2 w : Bytes} {i : Nat} {cw : List (List Bytes)} {count : Nat} {lvl : Level} {HT : Table} {t : Tape}
    {r : Level × Table × Tape} (I : Nat → Level → Table → Tape → Prop)
    (h : placeChunks cfg lv k1 k2 w i cw count lvl HT t = .ok r) (h0 : I 0 lvl HT t)
    (hstep : ∀ ch : ChunkStep cfg lv k1 k2 w i cw count, I ch.k ch.lvl ch.HT (.nat ch.x :: ch.t1) →
      I (ch.k + 1) (put w ch.lvl ch.x ch.c) ch.HT1 ch.t1) :
    I cw.length r.1 r.2.1 r.2.2 := by
  induction cw generalizing count lvl HT t I with
  | nil => cases h; exact h0
  | cons c rest ih =>
    obtain ⟨x, t1, HT1, rfl, hc, hins, h⟩ := placeChunks_cons cfg lv h
    -- chunk `k` of `rest`, counted from `count + 1`, is chunk `k + 1` of `c :: rest`, counted from `count`
    refine ih (fun k => I (k + 1)) h (hstep (.mk (k := 0) rfl hc hins) h0) fun ch => ?_
    have hins' : htInsert cfg lv k1 k2 w (count + (ch.k + 1) + 1) i ch.x ch.c ch.HT = .ok ch.HT1 := by
      rw [show count + (ch.k + 1) + 1 = count + 1 + ch.k + 1 by omega]
      exact ch.ins
    exact hstep (.mk (k := ch.k + 1) ch.chunk ch.room hins')

theorem placeChunks_lev {k1 k2 w : Bytes} {i : Nat} {cw : List (List Bytes)} {count : Nat} {lvl : Level} {HT : Table} {t : Tape}
    {r : Level × Table × Tape} (h : placeChunks cfg lv k1 k2 w i cw count lvl HT t = .ok r) : r.1.lev = lvl.lev :=
  placeChunks_rule cfg lv (fun _ l _ _ => l.lev = lvl.lev) h rfl fun _ hI => hI

theorem htInsert_lookup {k1 k2 w : Bytes} {count i x : Nat} {c : List Bytes} {HT HT1 : Table}
    (h : htInsert cfg lv k1 k2 w count i x c HT = .ok HT1) :
    (∀ key, htKey cfg lv k1 w count ≠ .ok key → HT1.lookup key = HT.lookup key) ∧
    (c ≠ [] → ∃ key v, htKey cfg lv k1 w count = .ok key ∧ htVal cfg lv k2 w count i x = .ok v ∧ HT1.lookup key = some v) := by
  rcases htInsert_inv cfg lv h with ⟨hc, rfl⟩ | ⟨_, key0, v, hk, hv, rfl⟩
  · exact ⟨fun _ _ => rfl, fun hne => absurd hc hne⟩
  · exact ⟨fun key hne => by rw [lookup_tinsert, if_neg (fun (e : key = key0) => hne (e ▸ hk))],
      fun _ => ⟨key0, v, hk, hv, by rw [lookup_tinsert, if_pos rfl]⟩⟩

/-- `xs` are the buckets drawn.  Nothing is asked of the hash-table keys here, so the entry of chunk `k` is there at the end if no
    later chunk of the keyword has its key (`encDb_stored` has that from `KeyInj`) -/
theorem placeChunks_inv {k1 k2 w : Bytes} {i : Nat} {cw : List (List Bytes)} {count : Nat} {lvl : Level} {HT : Table}
    {t : Tape} {lvl' : Level} {HT' : Table} {t' : Tape}
    (h : placeChunks cfg lv k1 k2 w i cw count lvl HT t = .ok (lvl', HT', t')) (hwf : WFL lvl) :
    WFL lvl' ∧ ∃ xs : List Nat, t = xs.map Draw.nat ++ t' ∧ xs.length = cw.length ∧
      ∀ k c, cw[k]? = some c → ∃ x, xs[k]? = some x ∧ (∀ id ∈ c, InBucket lvl' x (some (w, id))) ∧
        (c ≠ [] → ∃ key v, htKey cfg lv k1 w (count + k + 1) = .ok key ∧ htVal cfg lv k2 w (count + k + 1) i x = .ok v ∧
          ((∀ k', k < k' → k' < cw.length → htKey cfg lv k1 w (count + k' + 1) ≠ .ok key) → HT'.lookup key = some v)) := by
  have := placeChunks_rule cfg lv (fun n l H t1 => WFL l ∧
    ∃ xs : List Nat, t = xs.map Draw.nat ++ t1 ∧ xs.length = n ∧
      ∀ k c, k < n → cw[k]? = some c → ∃ x, xs[k]? = some x ∧ (∀ id ∈ c, InBucket l x (some (w, id))) ∧
        (c ≠ [] → ∃ key v, htKey cfg lv k1 w (count + k + 1) = .ok key ∧ htVal cfg lv k2 w (count + k + 1) i x = .ok v ∧
          ((∀ k', k < k' → k' < n → htKey cfg lv k1 w (count + k' + 1) ≠ .ok key) → H.lookup key = some v)))
    h ⟨hwf, [], rfl, rfl, fun k _ hk => absurd hk (Nat.not_lt_zero k)⟩ ?_
  · obtain ⟨a2, xs, a5, a6, a7⟩ := this
    exact ⟨a2, xs, a5, a6, fun k c hk => a7 k c (List.getElem?_eq_some_iff.mp hk).1 hk⟩
  intro ch ⟨a2, xs, a5, a6, a7⟩
  obtain ⟨hother, hnew⟩ := htInsert_lookup cfg lv ch.ins
  have htape : t = (xs ++ [ch.x]).map Draw.nat ++ ch.t1 := by simp [a5]
  have hlen : (xs ++ [ch.x]).length = ch.k + 1 := by simp [a6]
  refine ⟨put_wfl a2, xs ++ [ch.x], htape, hlen, fun k c' hk hc' => ?_⟩
  rcases Nat.lt_succ_iff_lt_or_eq.mp hk with hk' | rfl
  -- an earlier chunk: its bucket has only grown, and its entry is still there if this chunk has another key
  · obtain ⟨y, b1, b2, b3⟩ := a7 k c' hk' hc'
    have hy : (xs ++ [ch.x])[k]? = some y := by
      rw [List.getElem?_append_left (a6 ▸ hk')]
      exact b1
    refine ⟨y, hy, fun id hid => put_inBucket (b2 id hid), fun hne => ?_⟩
    obtain ⟨key, v, c1, c2, c3⟩ := b3 hne
    refine ⟨key, v, c1, c2, fun hlater => ?_⟩
    rw [hother key (hlater ch.k hk' (Nat.lt_succ_self _))]
    exact c3 fun k' d1 d2 => hlater k' d1 (Nat.lt_succ_of_lt d2)
  -- this chunk: it is in the bucket drawn for it, and its entry is the one just written
  · rw [ch.chunk] at hc'
    cases hc'
    have hx : (xs ++ [ch.x])[ch.k]? = some ch.x := by simp [a6]
    refine ⟨ch.x, hx, fun id hid => put_new a2 ch.room hid, fun hne => ?_⟩
    obtain ⟨key, v, c1, c2, c3⟩ := hnew hne
    exact ⟨key, v, c1, c2, fun _ => c3⟩

/-- hash-table keys of different (keyword, chunk number) pairs differ — collision-freeness of H on the distinct inputs
    `F_k1(w) ‖ count` that `Setup` uses (chunk numbers run from 1 to the number of chunks of the keyword's list) -/
def KeyInj (k1 : Bytes) (levels : List Int) (db : DB) : Prop :=
  ∀ w ids w' ids' c c' key, (w, ids) ∈ db → (w', ids') ∈ db → 1 ≤ c → c ≤ nChunks cfg levels ids → 1 ≤ c' →
    c' ≤ nChunks cfg levels ids' → htKey cfg lv k1 w c = .ok key → htKey cfg lv k1 w' c' = .ok key → w = w' ∧ c = c'

theorem encDb_cons {k1 k2 : Bytes} {levels : List Int} {w : Bytes} {ids : List Bytes} {rest : DB} {ls : List Level} {HT : Table}
    {t : Tape} {r : List Level × Table × Tape} (h : encDb cfg lv k1 k2 levels ((w, ids) :: rest) ls HT t = .ok r) :
    ∃ (i : Nat) (lvl : Level) (cw : List (List Bytes)) (lvl1 : Level) (HT1 : Table) (t1 : Tape),
      findAdjacent cfg levels ids.length = .ok (i : Int) ∧ getLevel ls i = some lvl ∧ chunks ids (2 ^ i) = .ok cw ∧
      placeChunks cfg lv k1 k2 w i cw 0 lvl HT t = .ok (lvl1, HT1, t1) ∧
      encDb cfg lv k1 k2 levels rest (setLevel ls lvl1) HT1 t1 = .ok r := by
  simp only [encDb, ok_inv, getLevelE_eq_ok] at h
  obtain ⟨iI, hi, hneg, lvl, hlvl, cw, hcw, ⟨lvl1, HT1, t1⟩, hp, h⟩ := h
  obtain ⟨i, rfl⟩ := Int.eq_ofNat_of_zero_le (Int.not_lt.mp hneg)
  exact ⟨i, lvl, cw, lvl1, HT1, t1, hi, hlvl, hcw, hp, h⟩

/-- one pass of the keyword loop of `_Enc` (`encDb`) over `db`: keyword `k` (from 0) is `(w, ids)`, the state before it
    `ls, HT, t`, the state after it `setLevel ls lvl1, HT1, t1` -/
structure KwStep (k1 k2 : Bytes) (levels : List Int) (db : DB) where
  {k : Nat} {w : Bytes} {ids : List Bytes} {ls : List Level} {HT : Table} {t : Tape}
  {i : Nat} {lvl : Level} {cw : List (List Bytes)} {lvl1 : Level} {HT1 : Table} {t1 : Tape}
  kw : db[k]? = some (w, ids)
  level : findAdjacent cfg levels ids.length = .ok (i : Int)
  here : getLevel ls i = some lvl
  cut : chunks ids (2 ^ i) = .ok cw
  placed : placeChunks cfg lv k1 k2 w i cw 0 lvl HT t = .ok (lvl1, HT1, t1)

theorem encDb_rule {k1 k2 : Bytes} {levels : List Int} {db : DB} {ls : List Level} {HT : Table} {t : Tape}
    {r : List Level × Table × Tape} (I : Nat → List Level → Table → Tape → Prop)
    (h : encDb cfg lv k1 k2 levels db ls HT t = .ok r) (h0 : I 0 ls HT t)
    (hstep : ∀ st : KwStep cfg lv k1 k2 levels db, I st.k st.ls st.HT st.t →
      I (st.k + 1) (setLevel st.ls st.lvl1) st.HT1 st.t1) :
    I db.length r.1 r.2.1 r.2.2 := by
  induction db generalizing ls HT t I with
  | nil => cases h; exact h0
  | cons p rest ih =>
    obtain ⟨i, lvl, cw, lvl1, HT1, t1, hi, hlvl, hcw, hp, h⟩ := encDb_cons cfg lv h
    exact ih (fun k => I (k + 1)) h (hstep (.mk (k := 0) rfl hi hlvl hcw hp) h0) fun st =>
      hstep (.mk (k := st.k + 1) st.kw st.level st.here st.cut st.placed)

theorem encDb_suffix {k1 k2 : Bytes} {levels : List Int} {db : DB} {ls : List Level} {HT : Table} {t : Tape}
    {r : List Level × Table × Tape} (h : encDb cfg lv k1 k2 levels db ls HT t = .ok r) : Suffix r.2.2 t :=
  encDb_rule cfg lv (fun _ _ _ t1 => Suffix t1 t) h (Suffix.refl _) fun st hI =>
    placeChunks_rule cfg lv (fun _ _ _ t2 => Suffix t2 t) st.placed hI fun _ hJ => (Suffix.cons _ _).trans hJ

theorem encDb_levs {k1 k2 : Bytes} {levels : List Int} {db : DB} {ls : List Level} {HT : Table} {t : Tape}
    {r : List Level × Table × Tape} (h : encDb cfg lv k1 k2 levels db ls HT t = .ok r) :
    r.1.map (·.lev) = ls.map (·.lev) :=
  encDb_rule cfg lv (fun _ ls' _ _ => ls'.map (·.lev) = ls.map (·.lev)) h rfl
    fun _ hI => (setLevel_levs _ _).trans hI

theorem nChunks_eq_length {levels : List Int} {ids : List Bytes} {i : Nat} {cw : List (List Bytes)}
    (hi : findAdjacent cfg levels ids.length = .ok (i : Int)) (hcw : chunks ids (2 ^ i) = .ok cw) :
    nChunks cfg levels ids = cw.length := by
  obtain ⟨_, _, hlen, _⟩ := chunks_inv hcw
  simp [nChunks, hi, hlen]

theorem encDb_inLevel {k1 k2 : Bytes} {levels : List Int} {db : DB} {ls : List Level} {HT : Table} {t : Tape}
    {r : List Level × Table × Tape} (h : encDb cfg lv k1 k2 levels db ls HT t = .ok r) {i : Int} {x : Nat} {e : Entry}
    (he : InLevel ls i x e) : InLevel r.1 i x e :=
  encDb_rule cfg lv (fun _ ls1 _ _ => InLevel ls1 i x e) h he fun st hI => by
    have := placeChunks_rule cfg lv (fun _ l _ _ => ∀ y e, InBucket st.lvl y e → InBucket l y e) st.placed
      (fun _ _ h => h) fun _ hJ y e h => put_inBucket (hJ y e h)
    exact InLevel.setLevel st.here this (placeChunks_lev cfg lv st.placed) hI

theorem encDb_other_keys {k1 k2 : Bytes} {levels : List Int} {db : DB} {ls : List Level} {HT : Table} {t : Tape}
    {r : List Level × Table × Tape} (h : encDb cfg lv k1 k2 levels db ls HT t = .ok r) {key : Bytes}
    (hkey : ∀ w ids c, (w, ids) ∈ db → 1 ≤ c → c ≤ nChunks cfg levels ids → htKey cfg lv k1 w c ≠ .ok key) :
    r.2.1.lookup key = HT.lookup key :=
  encDb_rule cfg lv (fun _ _ H _ => H.lookup key = HT.lookup key) h rfl fun st hI =>
    placeChunks_rule cfg lv (fun _ _ H _ => H.lookup key = HT.lookup key) st.placed hI fun ch hJ => by
      -- chunk `ch.k` of keyword `st.w` has number `ch.k + 1`, one of the numbers `hkey` speaks of
      have hk : ch.k < st.cw.length := (List.getElem?_eq_some_iff.mp ch.chunk).1
      have hnum : 0 + ch.k + 1 ≤ nChunks cfg levels st.ids := by
        rw [nChunks_eq_length cfg st.level st.cut]
        omega
      rw [(htInsert_lookup cfg lv ch.ins).1 key (hkey st.w st.ids _ (List.mem_of_getElem? st.kw) (Nat.succ_pos _) hnum)]
      exact hJ

theorem encDb_stored {k1 k2 : Bytes} {levels : List Int} {db : DB} {ls : List Level} {HT : Table} {t : Tape}
    {ls' : List Level} {HT' : Table} {t' : Tape} (h : encDb cfg lv k1 k2 levels db ls HT t = .ok (ls', HT', t'))
    (hwf : ∀ l ∈ ls, WFL l) (hkeys : (db.map (·.1)).Nodup) (hinj : KeyInj cfg lv k1 levels db) :
    ∀ w ids, (w, ids) ∈ db → ∃ (i : Nat) (cw : List (List Bytes)),
      findAdjacent cfg levels ids.length = .ok (i : Int) ∧ chunks ids (2 ^ i) = .ok cw ∧
      ∀ k c, cw[k]? = some c → ∃ x key v, htKey cfg lv k1 w (k + 1) = .ok key ∧ htVal cfg lv k2 w (k + 1) i x = .ok v ∧
        HT'.lookup key = some v ∧ ∀ id ∈ c, InLevel ls' (i : Int) x (some (w, id)) := by
  induction db generalizing ls HT t with
  | nil => exact fun _ _ hm => nomatch hm
  | cons p rest ih =>
    obtain ⟨w0, ids0⟩ := p
    obtain ⟨i, lvl, cw, lvl1, HT1, t1, hi, hget, hcw, hp, h⟩ := encDb_cons cfg lv h
    have p1 : lvl1.lev = lvl.lev := placeChunks_lev cfg lv hp
    obtain ⟨p2, xs, _, _, p5⟩ := placeChunks_inv cfg lv hp (hwf lvl (getLevel_mem hget))
    simp only [List.map_cons, List.nodup_cons] at hkeys
    intro w ids hm
    rcases List.mem_cons.mp hm with e | hm
    · cases e
      refine ⟨i, cw, hi, hcw, fun k c hk => ?_⟩
      have hnc := nChunks_eq_length cfg hi hcw
      have hkl : k < cw.length := (List.getElem?_eq_some_iff.mp hk).1
      obtain ⟨x, _, a1, a2⟩ := p5 k c hk
      obtain ⟨_, _, _, hcs⟩ := chunks_inv hcw
      have hcne : c ≠ [] := (hcs c (List.mem_of_getElem? hk)).1
      obtain ⟨key, v, b1, b2, b3⟩ := a2 hcne
      simp only [Nat.zero_add] at b1 b2 b3
      have hlev : lvl.lev = (i : Int) := getLevel_lev hget
      -- by `KeyInj`, a chunk with this key is chunk number `k + 1` of this keyword
      have hinj0 : ∀ w' ids' c, (w', ids') ∈ (w0, ids0) :: rest → 1 ≤ c → c ≤ nChunks cfg levels ids' →
          htKey cfg lv k1 w' c = .ok key → w' = w0 ∧ c = k + 1 := fun w' ids' c hm' h1 h2 he =>
        hinj w' ids' w0 ids0 c (k + 1) key hm' List.mem_cons_self h1 h2 (Nat.succ_pos k) (hnc ▸ hkl) he b1
      refine ⟨x, key, v, b1, b2, ?_, fun id hid => encDb_inLevel cfg lv h ⟨lvl1, ?_, a1 id hid⟩⟩
      -- so no later keyword has one, the keywords being distinct, and no later chunk of this keyword is one
      · have hrest : ∀ w' ids' c, (w', ids') ∈ rest → 1 ≤ c → c ≤ nChunks cfg levels ids' →
            htKey cfg lv k1 w' c ≠ .ok key := by
          intro w' ids' c hm' h1 h2 he
          have hw : w' = w0 := (hinj0 w' ids' c (List.mem_cons_of_mem _ hm') h1 h2 he).1
          exact hkeys.1 (List.mem_map.mpr ⟨(w', ids'), hm', hw⟩)
        rw [encDb_other_keys cfg lv h hrest]
        refine b3 fun k' d1 d2 he => ?_
        have hk' : k' + 1 = k + 1 := (hinj0 w0 ids0 (k' + 1) List.mem_cons_self (Nat.succ_pos k') (hnc ▸ d2) he).2
        omega
      · have := getLevel_setLevel_eq ls lvl1 (p1 ▸ hlev ▸ hget)
        rwa [p1, hlev] at this
    · exact ih h (forall_setLevel hwf p2) hkeys.2 (fun w ids w' ids' c c' key hm hm' =>
        hinj w ids w' ids' c c' key (List.mem_cons_of_mem _ hm) (List.mem_cons_of_mem _ hm')) w ids hm

theorem initLevels_new {N : Nat} {levels : List Int} {ls : List Level} (h : initLevels N levels [] = .ok ls) :
    ∀ l ∈ ls, l = newLevel N l.lev :=
  fun l hl => ((initLevels_inv h).1 l hl).resolve_left List.not_mem_nil

theorem BInv.initLevels {N : Nat} {levels : List Int} {ls : List Level} (h : initLevels N levels [] = .ok ls) :
    ∀ l ∈ ls, BInv (sizesOf N l.lev) l := by
  intro l hl
  rw [initLevels_new h l hl]
  exact BInv.newLevel N l.lev

theorem BInv.encDb {N : Nat} {k1 k2 : Bytes} {levels : List Int} {db : DB} {ls : List Level} {HT : Table} {t : Tape}
    {r : List Level × Table × Tape} (hinv : ∀ l ∈ ls, BInv (sizesOf N l.lev) l)
    (h : encDb cfg lv k1 k2 levels db ls HT t = .ok r) : ∀ l ∈ r.1, BInv (sizesOf N l.lev) l := by
  refine encDb_rule cfg lv (fun _ ls1 _ _ => ∀ l ∈ ls1, BInv (sizesOf N l.lev) l) h hinv ?_
  intro st hI
  -- a chunk cut for level `i` has at most `2^i` identifiers
  have hcs : ∀ c ∈ st.cw, c ≠ [] ∧ c.length ≤ 2 ^ st.i := (chunks_inv st.cut).2.2.2
  have hlvl1 : BInv (sizesOf N st.lvl1.lev) st.lvl1 := by
    -- the chunk loop keeps the level's number, so its invariant has the sizes of `st.lvl.lev` throughout
    rw [placeChunks_lev cfg lv st.placed]
    refine placeChunks_rule cfg lv (fun _ l _ _ => BInv (sizesOf N st.lvl.lev) l) st.placed ?_ ?_
    · exact hI st.lvl (getLevel_mem st.here)
    intro ch hJ
    exact hJ.put ch.room (hcs ch.c (List.mem_of_getElem? ch.chunk)).2
  exact forall_setLevel hI hlvl1

theorem encDb_entP {P : Bytes → Bytes → Prop} {k1 k2 : Bytes} {levels : List Int} {db : DB} {ls : List Level} {HT : Table}
    {t : Tape} {r : List Level × Table × Tape} (hP : ∀ l ∈ ls, ∀ b ∈ l.buckets, EntP P b)
    (hdb : ∀ w ids, (w, ids) ∈ db → ∀ id ∈ ids, P w id) (h : encDb cfg lv k1 k2 levels db ls HT t = .ok r) :
    ∀ l ∈ r.1, ∀ b ∈ l.buckets, EntP P b := by
  refine encDb_rule cfg lv (fun _ ls1 _ _ => ∀ l ∈ ls1, ∀ b ∈ l.buckets, EntP P b) h hP ?_
  intro st hI
  have hflat : st.cw.flatten = st.ids := (chunks_inv st.cut).2.1
  -- a chunk of the keyword's list holds identifiers of that list
  have hids : ∀ c ∈ st.cw, ∀ id ∈ c, P st.w id := fun c hc id hid =>
    hdb st.w st.ids (List.mem_of_getElem? st.kw) id (hflat ▸ List.mem_flatten.mpr ⟨c, hc, hid⟩)
  have hlvl1 : ∀ b ∈ st.lvl1.buckets, EntP P b :=
    placeChunks_rule cfg lv (fun _ l _ _ => ∀ b ∈ l.buckets, EntP P b) st.placed (hI st.lvl (getLevel_mem st.here))
      fun ch hJ => put_entP hJ (hids ch.c (List.mem_of_getElem? ch.chunk))
  exact forall_setLevel hI hlvl1

theorem postings_idLen {db : DB} (hlam : 0 ≤ cfg.lambda) (hidl : ∀ p ∈ db, ∀ id ∈ p.2, (id.length : Int) = cfg.idSize)
    (w id : Bytes) (h : ∃ ids, (w, ids) ∈ db ∧ id ∈ ids) :
    id.length + cfg.lambda.toNat = (cfg.idSize + cfg.lambda).toNat := by
  obtain ⟨ids, hp, hid⟩ := h
  rw [← hidl _ hp id hid, Int.toNat_add (Int.natCast_nonneg _) hlam, Int.toNat_natCast]

theorem fillHT_eq_fillT (dd n : Nat) (T : Table) (t : Tape) : fillHT dd n T t = SSE1.fillT dd dd n T t := by
  induction n generalizing T t with
  | zero => rfl
  | succ m ih => simp only [fillHT, SSE1.fillT, ih]

theorem fillHT_suffix {d n : Nat} {T : Table} {t : Tape} {T' : Table} {t' : Tape} (h : fillHT d n T t = .ok (T', t')) :
    Suffix t' t := by
  obtain ⟨kvs, _, _, rfl, _⟩ := SSE1.fillT_inv (fillHT_eq_fillT .. ▸ h)
  exact ⟨_, rfl⟩

theorem fillHT_lookup {d n : Nat} {T : Table} {t : Tape} {T' : Table} {t' : Tape} (h : fillHT d n T t = .ok (T', t'))
    {g : Bytes} (hfresh : ∀ b, Draw.bytes b ∈ t → b ≠ g) : T'.lookup g = T.lookup g := by
  obtain ⟨kvs, _, _, rfl, rfl⟩ := SSE1.fillT_inv (fillHT_eq_fillT .. ▸ h)
  -- the filler keys are on the tape, so none of them is `g` and the fillers, inserted in turn, have no entry for `g`
  have hdrawn : ∀ p ∈ kvs, Draw.bytes p.1 ∈ kvs.flatMap (fun p => [.bytes p.2, .bytes p.1]) ++ t' := fun p hp =>
    List.mem_append_left _ (List.mem_flatMap.mpr ⟨p, hp, List.mem_cons_of_mem _ List.mem_cons_self⟩)
  have hne : ∀ p ∈ kvs.reverse, (g != p.1) = true := fun p hp =>
    bne_iff_ne.mpr fun e => hfresh p.1 (hdrawn p (List.mem_reverse.mp hp)) e.symm
  have hg : kvs.reverse.lookup g = none := List.lookup_eq_none_iff.mpr hne
  rw [foldl_tinsert_lookup, hg]

/-- every recorded shuffle is a permutation of the positions it shuffles -/
def PermsGood (t : Tape) : Prop := ∀ p, Draw.nats p ∈ t → p.Perm (List.range p.length)

theorem PermsGood.suffix {t t' : Tape} (h : PermsGood t) (hs : Suffix t' t) : PermsGood t' :=
  fun p hp => h p (hs.mem hp)

theorem permute_inv {α : Type} {l : List α} {perm : List Nat} {l' : List α} (h : permute l perm = .ok l') :
    perm.length = l.length ∧ Forall₂ (fun i x => l[i]? = some x) perm l' := by
  unfold permute at h
  split at h
  · cases h
  · rename_i hne
    have hlen : perm.length = l.length := by simpa using hne
    refine ⟨hlen, (mapM_inv h).imp fun i x hx => ?_⟩
    -- an index beyond the list raises
    cases hi : l[i]? with
    | none =>
      rw [hi] at hx
      cases hx
    | some y =>
      rw [hi] at hx
      cases hx
      rfl

/-- cell `c` is what `encBucket` writes for entry `e` out of the draws of `t`: a drawn dummy of the cell length, or the
    posting's `id ‖ 0^λ` encrypted under its keyword's tag -/
def CellOf (k3 : Bytes) (t : Tape) (e : Entry) (c : Bytes) : Prop :=
  match e with
  | none => Draw.bytes c ∈ t ∧ c.length = cfg.cipherLen
  | some (w, id) => ∃ etag, cfg.prfF.call lv.hmac k3 w = .ok etag ∧ Enc cfg.rnd lv t etag (id ++ zeros cfg.lambda.toNat) c

theorem CellOf.mono {k3 : Bytes} {t t' : Tape} {e : Entry} {c : Bytes} (hs : Suffix t' t) (h : CellOf cfg lv k3 t' e c) :
    CellOf cfg lv k3 t e c := by
  match e, h with
  | none, ⟨h1, h2⟩ => exact ⟨hs.mem h1, h2⟩
  | some (w, id), ⟨etag, a, b⟩ => exact ⟨etag, a, b.mono hs⟩

theorem encBucket_inv {k3 : Bytes} {es : List Entry} {t t' : Tape} {cs : List Bytes}
    (h : encBucket cfg lv k3 es t = .ok (cs, t')) : Suffix t' t ∧ Forall₂ (CellOf cfg lv k3 t) es cs := by
  induction es generalizing t cs with
  | nil => cases h; exact ⟨.refl _, .nil⟩
  | cons e rest ih =>
    obtain ⟨c0, t1, more, hs1, h0, hrest, rfl⟩ : ∃ c0 t1 more, Suffix t1 t ∧ CellOf cfg lv k3 t e c0 ∧
        encBucket cfg lv k3 rest t1 = .ok (more, t') ∧ cs = c0 :: more := by
      match e with
      | none =>
        simp only [encBucket, ok_inv] at h
        obtain ⟨⟨r, t1⟩, hr, ⟨more, t2⟩, hm, h⟩ := h
        cases h
        obtain ⟨rfl, hl⟩ := takeBytes_eq_ok.mp hr
        exact ⟨r, t1, more, .cons _ _, ⟨List.mem_cons_self, hl⟩, hm, rfl⟩
      | some (w, id) =>
        simp only [encBucket, ok_inv] at h
        obtain ⟨etag, het, ⟨c, t1⟩, hc, ⟨more, t2⟩, hm, h⟩ := h
        cases h
        exact ⟨c, t1, more, (skeEncrypt_enc hc).2, ⟨etag, het, (skeEncrypt_enc hc).1⟩, hm, rfl⟩
    obtain ⟨i0, i1⟩ := ih hrest
    exact ⟨i0.trans hs1, .cons h0 (i1.imp fun _ _ hc => hc.mono cfg lv hs1)⟩

/-- bucket `b` with `r` free cells is finished into the entries `sh` and the byte string `a`: padded, shuffled by a recorded
    permutation, encrypted cell by cell -/
def Finished (k3 : Bytes) (t : Tape) (b : List Entry) (r : Nat) (sh : List Entry) (a : Bytes) : Prop :=
  ∃ perm cs, Draw.nats perm ∈ t ∧ permute (b ++ List.replicate r none) perm = .ok sh ∧ a = cs.flatten ∧
    Forall₂ (CellOf cfg lv k3 t) sh cs

theorem Finished.mono {k3 : Bytes} {t t' : Tape} {b sh : List Entry} {r : Nat} {a : Bytes} (hs : Suffix t' t)
    (h : Finished cfg lv k3 t' b r sh a) : Finished cfg lv k3 t b r sh a := by
  obtain ⟨perm, cs, h1, h2, h3, h4⟩ := h
  exact ⟨perm, cs, hs.mem h1, h2, h3, h4.imp fun _ _ hc => hc.mono cfg lv hs⟩

theorem finishBuckets_inv {k3 : Bytes} {bks : List (List Entry)} {rems : List Nat} {t : Tape} {bs : List (List Entry)}
    {arr : List Bytes} {t' : Tape} (h : finishBuckets cfg lv k3 bks rems t = .ok (bs, arr, t')) :
    Suffix t' t ∧ bs.length = bks.length ∧ arr.length = bks.length ∧ ∀ (x : Nat) b, bks[x]? = some b →
      ∃ sh a, bs[x]? = some sh ∧ arr[x]? = some a ∧ Finished cfg lv k3 t b (rems[x]?.getD 0) sh a := by
  induction bks generalizing rems t bs arr with
  | nil => cases h; exact ⟨.refl _, rfl, rfl, fun x b hx => by simp at hx⟩
  | cons b0 rest ih =>
    simp only [finishBuckets, ok_inv] at h
    obtain ⟨⟨perm, t1⟩, hr, shuffled, hsh, ⟨cs0, t2⟩, henc, ⟨bs1, arr1, t3⟩, hrest, h⟩ := h
    cases h
    have hs1 : Suffix t1 t := takeNats_suffix hr
    obtain ⟨e0, e1⟩ := encBucket_inv cfg lv henc
    obtain ⟨i0, i1, i2, i3⟩ := ih hrest
    have hbs : (shuffled :: bs1).length = (b0 :: rest).length := by simp [i1]
    have harr : (cs0.flatten :: arr1).length = (b0 :: rest).length := by simp [i2]
    refine ⟨(i0.trans e0).trans hs1, hbs, harr, fun x b hx => ?_⟩
    cases x with
    | zero =>
      cases hx
      have hperm : Draw.nats perm ∈ t := by
        rw [takeNats_eq_ok.mp hr]
        exact List.mem_cons_self
      refine ⟨shuffled, _, rfl, rfl, perm, cs0, hperm, ?_, rfl, e1.imp fun _ _ hc => hc.mono cfg lv hs1⟩
      -- `rems.headD 0` of the model is `rems[0]?.getD 0`
      cases rems <;> exact hsh
    | succ x =>
      obtain ⟨sh, a, a1, a2, a3⟩ := i3 x b hx
      refine ⟨sh, a, a1, a2, ?_⟩
      have : rems.tail[x]?.getD 0 = rems[x + 1]?.getD 0 := by cases rems <;> simp
      exact this ▸ a3.mono cfg lv (e0.trans hs1)

section finished
variable {k3 : Bytes} {t : Tape} {b sh : List Entry} {r : Nat} {a : Bytes}

theorem Finished.entP {P : Bytes → Bytes → Prop} (h : Finished cfg lv k3 t b r sh a) (hP : EntP P b) : EntP P sh := by
  obtain ⟨perm, cs, _, hsh, _, _⟩ := h
  intro w id hm
  obtain ⟨i, _, hi⟩ := (permute_inv hsh).2.of_mem_right hm
  rcases List.mem_append.mp (List.mem_of_getElem? hi) with hm | hm
  · exact hP w id hm
  · cases (List.mem_replicate.mp hm).2

theorem Finished.mem (h : Finished cfg lv k3 t b r sh a) (hp : PermsGood t) {e : Entry} (he : e ∈ b) : e ∈ sh := by
  obtain ⟨perm, cs, hperm, hsh, _, _⟩ := h
  obtain ⟨i, hi, rfl⟩ := List.mem_iff_getElem.mp (List.mem_append_left (List.replicate r none) he)
  obtain ⟨y, hy, hiy⟩ := (permute_inv hsh).2.of_mem_left
    ((hp perm hperm).mem_iff.mpr (List.mem_range.mpr ((permute_inv hsh).1 ▸ hi)))
  rw [List.getElem?_eq_getElem hi] at hiy
  cases hiy
  exact hy

/-- `n` is the length `|id| + λ` of a plaintext `id ‖ 0^λ`; `hclen` is the cell length the configuration computes from it -/
theorem Finished.cells (hE : BlockLen lv) (n : Nat) (hclen : cfg.cipherLen = 16 + 16 * (n / 16 + 1))
    (h : Finished cfg lv k3 t b r sh a) (hlen : EntP (fun _ id => id.length + cfg.lambda.toNat = n) b) :
    ∃ cs, a = cs.flatten ∧ cs.length = b.length + r ∧ (∀ c ∈ cs, c.length = cfg.cipherLen) ∧
      Forall₂ (CellOf cfg lv k3 t) sh cs := by
  have hlen' := h.entP cfg lv hlen
  obtain ⟨perm, cs, _, hsh, ha, hcs⟩ := h
  have hcount : cs.length = b.length + r := by
    rw [hcs.length_right, (permute_inv hsh).2.length_right, (permute_inv hsh).1]
    simp
  refine ⟨cs, ha, hcount, fun c hc => ?_, hcs⟩
  obtain ⟨e, he, hcell⟩ := hcs.of_mem_right hc
  match e, hcell with
  | none, ⟨_, h2⟩ => exact h2
  | some (w, id), ⟨etag, _, henc⟩ =>
    rw [henc.length hE, hclen]
    simp [zeros, hlen' w id he]

end finished

theorem finishBuckets_entP {P : Bytes → Bytes → Prop} {k3 : Bytes} {bks : List (List Entry)} {rems : List Nat} {t : Tape}
    {bs : List (List Entry)} {arr : List Bytes} {t' : Tape} (h : finishBuckets cfg lv k3 bks rems t = .ok (bs, arr, t'))
    (hP : ∀ b ∈ bks, EntP P b) : ∀ b ∈ bs, EntP P b := by
  obtain ⟨_, f1, _, f3⟩ := finishBuckets_inv cfg lv h
  intro b' hb'
  obtain ⟨x, hx⟩ := List.mem_iff_getElem?.mp hb'
  have hxl : x < bks.length := f1 ▸ (List.getElem?_eq_some_iff.mp hx).1
  obtain ⟨sh, a, a1, _, a3⟩ := f3 x _ (List.getElem?_eq_getElem hxl)
  rw [hx] at a1; cases a1
  exact a3.entP cfg lv (hP _ (List.getElem_mem hxl))

theorem lookup_map_upd (A : List (Int × List Bytes)) (i j : Int) (arr : List Bytes) :
    (A.map fun p => if p.1 == i then (i, arr) else p).lookup j =
      if j = i then (A.lookup i).map fun _ => arr else A.lookup j := by
  induction A with
  | nil => simp
  | cons p rest ih =>
    obtain ⟨k, b⟩ := p
    rw [List.map_cons]
    by_cases hk : k = i
    · subst hk
      simp only [beq_self_eq_true, if_true, lookup_cons_if, ih]
      split <;> rfl
    · have hb : (k == i) = false := by simpa using hk
      simp only [hb, Bool.false_eq_true, if_false, lookup_cons_if, ih]
      by_cases hj : j = i
      · subst hj; simp [Ne.symm hk]
      · simp [hj]

/-- `A_dict[i] = arr` as the model writes it (assignment to an existing key keeps its place) -/
def updA (A : List (Int × List Bytes)) (i : Int) (arr : List Bytes) : List (Int × List Bytes) :=
  if (A.lookup i).isSome then A.map fun p => if p.1 == i then (i, arr) else p else A ++ [(i, arr)]

theorem lookup_updA (A : List (Int × List Bytes)) (i j : Int) (arr : List Bytes) :
    (updA A i arr).lookup j = if j = i then some arr else A.lookup j := by
  unfold updA
  split
  · rename_i h
    obtain ⟨v, hv⟩ := Option.isSome_iff_exists.mp h
    rw [lookup_map_upd, hv]; rfl
  · rename_i h
    have hn : A.lookup i = none := Option.not_isSome_iff_eq_none.mp h
    rw [List.lookup_append, lookup_cons_if]
    by_cases hj : j = i
    · simp [hj, hn]
    · simp [hj]

theorem mem_updA {A : List (Int × List Bytes)} {i : Int} {arr : List Bytes} {p : Int × List Bytes} (h : p ∈ updA A i arr) :
    p ∈ A ∨ p = (i, arr) := by
  unfold updA at h
  split at h
  · obtain ⟨q, hq, rfl⟩ := List.mem_map.mp h
    split
    · exact .inr rfl
    · exact .inl hq
  · rcases List.mem_append.mp h with h | h
    · exact .inl h
    · exact .inr (List.mem_singleton.mp h)

theorem finishLevels_cons {k3 : Bytes} {i : Int} {rest : List Int} {ls : List Level} {A : List (Int × List Bytes)} {t : Tape}
    {r : List (Int × List Bytes) × Tape} (h : finishLevels cfg lv k3 (i :: rest) ls A t = .ok r) :
    ∃ lvl bs arr t1, getLevel ls i = some lvl ∧ finishBuckets cfg lv k3 lvl.buckets lvl.remaining t = .ok (bs, arr, t1) ∧
      finishLevels cfg lv k3 rest (setLevel ls { lvl with buckets := bs }) (updA A i arr) t1 = .ok r := by
  simp only [finishLevels, ok_inv, getLevelE_eq_ok] at h
  obtain ⟨lvl, hlvl, ⟨bs, arr, t1⟩, hf, h⟩ := h
  exact ⟨lvl, bs, arr, t1, hlvl, hf, h⟩

/-- one pass of `finishLevels` over `lvls`: entry `k` (from 0) is the level number `i`, the state before it `ls, A, t`, the
    state after it `setLevel ls { lvl with buckets := bs }, updA A i arr, t1` -/
structure LevelStep (k3 : Bytes) (lvls : List Int) where
  {k : Nat} {i : Int} {ls : List Level} {A : List (Int × List Bytes)} {t : Tape}
  {lvl : Level} {bs : List (List Entry)} {arr : List Bytes} {t1 : Tape}
  num : lvls[k]? = some i
  here : getLevel ls i = some lvl
  finished : finishBuckets cfg lv k3 lvl.buckets lvl.remaining t = .ok (bs, arr, t1)

/-- at the end `I` holds of some list of levels: `finishLevels` does not return the one it has -/
theorem finishLevels_rule {k3 : Bytes} {lvls : List Int} {ls : List Level} {A : List (Int × List Bytes)} {t : Tape}
    {r : List (Int × List Bytes) × Tape} (I : Nat → List Level → List (Int × List Bytes) → Tape → Prop)
    (h : finishLevels cfg lv k3 lvls ls A t = .ok r) (h0 : I 0 ls A t)
    (hstep : ∀ st : LevelStep cfg lv k3 lvls, I st.k st.ls st.A st.t →
      I (st.k + 1) (setLevel st.ls { st.lvl with buckets := st.bs }) (updA st.A st.i st.arr) st.t1) :
    ∃ ls', I lvls.length ls' r.1 r.2 := by
  induction lvls generalizing ls A t I with
  | nil => cases h; exact ⟨ls, h0⟩
  | cons i rest ih =>
    obtain ⟨lvl, bs, arr, t1, hlvl, hf, h⟩ := finishLevels_cons cfg lv h
    exact ih (fun k => I (k + 1)) h (hstep (.mk (k := 0) rfl hlvl hf) h0) fun st =>
      hstep (.mk (k := st.k + 1) st.num st.here st.finished)

/-- the identifier of entry `(w, id)`, placed in bucket `x` of level `i`, can be found in `A_i[x]`: a whole number of cells, one
    of which decrypts, under the keyword's tag, to `id ‖ 0^λ` -/
def InArray (k3 : Bytes) (A : List (Int × List Bytes)) (i : Int) (x : Nat) (w id : Bytes) : Prop :=
  ∃ (arr : List Bytes) (cs : List Bytes), A.lookup i = some arr ∧ arr[x]? = some cs.flatten ∧
    (∀ c ∈ cs, c.length = cfg.cipherLen) ∧ ∃ etag c, cfg.prfF.call lv.hmac k3 w = .ok etag ∧ c ∈ cs ∧
      cfg.rnd.decrypt lv.D etag c = .ok (id ++ zeros cfg.lambda.toNat)

theorem finishLevels_inArray (hde : Decrypts cfg.rnd lv) (hE : BlockLen lv) (n : Nat)
    (hclen : cfg.cipherLen = 16 + 16 * (n / 16 + 1)) {k3 : Bytes} {lvls : List Int} {ls : List Level}
    {A : List (Int × List Bytes)} {t : Tape} {A' : List (Int × List Bytes)} {t' : Tape}
    (h : finishLevels cfg lv k3 lvls ls A t = .ok (A', t')) (hp : PermsGood t)
    (hlen : ∀ l ∈ ls, ∀ b ∈ l.buckets, EntP (fun _ id => id.length + cfg.lambda.toNat = n) b) :
    ∀ i x w id, InLevel ls i x (some (w, id)) → i ∈ lvls → InArray cfg lv k3 A' i x w id := by
  -- kept by every pass: an entry held at the start is still held (a permutation loses nothing), and it is in the array if
  -- its level is among those finished so far: by this pass (it is in the shuffled bucket, so among the cells, and
  -- `Enc.dec`), or by an earlier one, whose array a later assignment to another level leaves alone
  have := finishLevels_rule cfg lv (fun k ls1 A1 t1 => Suffix t1 t ∧
      (∀ l ∈ ls1, ∀ b ∈ l.buckets, EntP (fun _ id => id.length + cfg.lambda.toNat = n) b) ∧
      ∀ i x w id, InLevel ls i x (some (w, id)) →
        InLevel ls1 i x (some (w, id)) ∧ (i ∈ lvls.take k → InArray cfg lv k3 A1 i x w id))
    h ⟨.refl _, hlen, fun i x w id hh => ⟨hh, fun hi => nomatch hi⟩⟩ ?_
  · obtain ⟨ls', _, _, hI⟩ := this
    intro i x w id hh hi
    rw [← List.take_length (l := lvls)] at hi
    exact (hI i x w id hh).2 hi
  intro st ⟨hs, hl1, hI⟩
  obtain ⟨f0, f1, _, f3⟩ := finishBuckets_inv cfg lv st.finished
  have hlb := hl1 st.lvl (getLevel_mem st.here)
  refine ⟨f0.trans hs, forall_setLevel hl1 (finishBuckets_entP cfg lv st.finished hlb), fun i x w id hh => ?_⟩
  obtain ⟨h1, h2⟩ := hI i x w id hh
  have hmono : ∀ y e, InBucket st.lvl y e → InBucket { st.lvl with buckets := st.bs } y e := fun y e ⟨b, hb, he⟩ => by
    obtain ⟨sh, a, a1, _, a3⟩ := f3 y b hb
    exact ⟨sh, a1, a3.mem cfg lv (hp.suffix hs) he⟩
  refine ⟨InLevel.setLevel st.here hmono rfl h1, fun hi => ?_⟩
  by_cases hii : i = st.i
  · subst hii
    obtain ⟨l, hl', b, hb, he⟩ := h1
    rw [st.here] at hl'; cases hl'
    obtain ⟨sh, a, _, a2, a3⟩ := f3 x b hb
    obtain ⟨cs, rfl, _, c2, c3⟩ := a3.cells cfg lv hE n hclen (hlb b (List.mem_of_getElem? hb))
    obtain ⟨c, hc, etag, het, henc⟩ := c3.of_mem_left (a3.mem cfg lv (hp.suffix hs) he)
    have hA : (updA st.A st.i st.arr).lookup st.i = some st.arr := by rw [lookup_updA, if_pos rfl]
    exact ⟨st.arr, cs, hA, a2, c2, etag, c, het, hc, henc.dec hde⟩
  · rw [List.take_add_one, st.num] at hi
    rcases List.mem_append.mp hi with hi | hi
    · obtain ⟨arr0, cs, c0, c1⟩ := h2 hi
      have hA : (updA st.A st.i st.arr).lookup i = some arr0 := by
        rw [lookup_updA, if_neg hii]
        exact c0
      exact ⟨arr0, cs, hA, c1⟩
    · exact absurd (by simpa using hi) hii

/-- a run of `setup` that returned, in the order of `_Enc`: the levels made (`ls0`), the keyword loop (levels `ls1`, chunk
    table `HT`, tape `t1`), the fillers (tape `t2`), the levels finished -/
structure Run (k1 k2 k3 : Bytes) (db : DB) (t : Tape) (edb : DP17EDB) (t' : Tape) (ls0 ls1 : List Level) (HT : Table)
    (t1 t2 : Tape) : Prop where
  init : initLevels db.total (levelsList cfg db.total) [] = .ok ls0
  enc : encDb cfg lv k1 k2 (levelsList cfg db.total) db ls0 [] t = .ok (ls1, HT, t1)
  fill : fillHT cfg.dsz (db.total - HT.length) HT t1 = .ok (edb.HT, t2)
  finish : finishLevels cfg lv k3 (levelsList cfg db.total) ls1 [] t2 = .ok (edb.A, t')
  suffix1 : Suffix t1 t
  suffix2 : Suffix t2 t

theorem setup_inv {k1 k2 k3 : Bytes} {db : DB} {t t' : Tape} {edb : DP17EDB}
    (hs : setup cfg lv [k1, k2, k3] db t = .ok (edb, t')) :
    ∃ ls0 ls1 HT t1 t2, Run cfg lv k1 k2 k3 db t edb t' ls0 ls1 HT t1 t2 := by
  simp only [setup, ok_inv] at hs
  obtain ⟨_, levels, hlv, ls0, hinit, ⟨ls1, HT, t1⟩, henc, ⟨HT', t2⟩, hfill, ⟨A, t3⟩, hfin, h⟩ := hs
  cases h
  cases (levelsOf_eq cfg db.total).symm.trans hlv
  have hs1 : Suffix t1 t := encDb_suffix cfg lv henc
  exact ⟨ls0, ls1, HT, t1, t2,
    { init := hinit, enc := henc, fill := hfill, finish := hfin, suffix1 := hs1,
      suffix2 := (fillHT_suffix hfill).trans hs1 }⟩

namespace Run
variable {cfg lv} {k1 k2 k3 : Bytes} {db : DB} {t t' : Tape} {edb : DP17EDB} {ls0 ls1 : List Level} {HT : Table}
  {t1 t2 : Tape}

theorem wfl (run : Run cfg lv k1 k2 k3 db t edb t' ls0 ls1 HT t1 t2) : ∀ l ∈ ls0, WFL l :=
  fun l hl => (BInv.initLevels run.init l hl).wfl

theorem binv (run : Run cfg lv k1 k2 k3 db t edb t' ls0 ls1 HT t1 t2) : ∀ l ∈ ls1, BInv (sizesOf db.total l.lev) l :=
  BInv.encDb cfg lv (BInv.initLevels run.init) run.enc

theorem postings (run : Run cfg lv k1 k2 k3 db t edb t' ls0 ls1 HT t1 t2) :
    ∀ l ∈ ls1, ∀ b ∈ l.buckets, EntP (fun w id => ∃ ids, (w, ids) ∈ db ∧ id ∈ ids) b := by
  have hempty : ∀ l ∈ ls0, ∀ b ∈ l.buckets, EntP (fun w id => ∃ ids, (w, ids) ∈ db ∧ id ∈ ids) b := by
    intro l hl b hb w id hm
    rw [initLevels_new run.init l hl] at hb
    rw [newLevel_empty db.total l.lev b hb] at hm
    cases hm
  exact encDb_entP cfg lv hempty (fun w ids hp id hid => ⟨ids, hp, hid⟩) run.enc

theorem idLen (run : Run cfg lv k1 k2 k3 db t edb t' ls0 ls1 HT t1 t2) (hlam : 0 ≤ cfg.lambda)
    (hidl : ∀ p ∈ db, ∀ id ∈ p.2, (id.length : Int) = cfg.idSize) :
    ∀ l ∈ ls1, ∀ b ∈ l.buckets, EntP (fun _ id => id.length + cfg.lambda.toNat = (cfg.idSize + cfg.lambda).toNat) b :=
  fun l hl b hb => (run.postings l hl b hb).imp (postings_idLen cfg hlam hidl)

end Run

end SSEPy.Sch.DP17
