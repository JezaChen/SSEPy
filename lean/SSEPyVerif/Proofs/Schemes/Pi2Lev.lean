/-
  Pi2Lev: what `setup` stores and how `search` reads it back.  Keyword by keyword the run stores a dictionary entry and a
  list of array cells in one of three layouts (`Case`: small / medium / large); `encDb_inv` says so once, for the whole
  loop, and everything about the index is read off it.  The level loop of `search` walks a layout back to the list.
-/
import SSEPyVerif.Proofs.Schemes.Place
import SSEPyVerif.Proofs.Schemes.Table
import SSEPyVerif.Proofs.Schemes.Cfg
import SSEPyVerif.Model.Schemes.Pi2Lev
namespace SSEPy.Sch.Pi2Lev

variable (cfg : Pi2LevCfg) (lv : Leaves)

/-- For an accepted configuration (`cfgBuild_accepted`) the first five are `param_pos`, `idx1` and `idx2` are the builder's
    check that both block sizes give the same pointer width; `idx`, a positive pointer width (`param_B·idsize ≥
    param_B'`), the builder does not check: the theorems take it as a hypothesis. -/
structure GoodCfg : Prop where
  B : 0 < cfg.B
  b : 0 < cfg.b
  Bp : 0 < cfg.Bp
  bp : 0 < cfg.bp
  ids : 0 < cfg.idSize
  idx : 0 < cfg.idxSize
  idx1 : (cfg.b * cfg.idSize).toNat / cfg.bp.toNat = cfg.idxSize.toNat
  idx2 : (cfg.B * cfg.idSize).toNat / cfg.Bp.toNat = cfg.idxSize.toNat

/-- block `j`, prefixed with the level mark, sits encrypted at `poss[j]`; `ptrs[j]` is that position in `idxSize` bytes -/
inductive Placed (K2 : Bytes) (mark : UInt8) (A : List (Option Bytes)) : List Bytes → List Nat → List Bytes → Prop where
  | nil : Placed K2 mark A [] [] []
  | cons (blk : Bytes) (rest : List Bytes) (pos : Nat) (poss : List Nat) (ptr : Bytes) (ptrs : List Bytes) (d : Bytes) :
      intToBytes (pos : Int) cfg.idxSize = .ok ptr → A[pos]? = some (some d) → cfg.ske.decrypt lv.D K2 d = .ok (mark :: blk) →
      Placed K2 mark A rest poss ptrs → Placed K2 mark A (blk :: rest) (pos :: poss) (ptr :: ptrs)

theorem Placed.lengths {K2 : Bytes} {mark : UInt8} {A : List (Option Bytes)} {blocks : List Bytes} {poss : List Nat}
    {ptrs : List Bytes} (h : Placed cfg lv K2 mark A blocks poss ptrs) :
    poss.length = blocks.length ∧ ptrs.length = blocks.length := by
  induction h with
  | nil => exact ⟨rfl, rfl⟩
  | cons _ _ _ _ _ _ _ _ _ _ _ ih => simp [ih.1, ih.2]

theorem placed_of {K2 : Bytes} {mark : UInt8} {A : List (Option Bytes)} {blocks : List Bytes} {pds : List (Nat × Bytes)}
    {ptrs : List Bytes} (h1 : Forall₂ (fun blk pd => cfg.ske.decrypt lv.D K2 pd.2 = .ok (mark :: blk)) blocks pds)
    (h2 : Forall₂ (fun pd ptr => intToBytes pd.1 cfg.idxSize = .ok ptr) pds ptrs)
    (hc : ∀ pd ∈ pds, A[pd.1]? = some (some pd.2)) : Placed cfg lv K2 mark A blocks (pds.map (·.1)) ptrs := by
  induction h1 generalizing ptrs with
  | nil => cases h2; exact .nil
  | cons h _ ih =>
    cases h2 with
    | cons hp h2 =>
      exact .cons _ _ _ _ _ _ _ hp (hc _ List.mem_cons_self) h (ih h2 fun pd hpd => hc pd (List.mem_cons_of_mem _ hpd))

/-- how a keyword's list is laid out, as seen from its dictionary entry `mark ‖ content ‖ padding`; `pds` are the array cells
    it takes, and `P mark blocks pds ptrs` says in which sense `blocks` are stored, marked, as the cells `pds` with pointers `ptrs` -/
inductive Case (P : UInt8 → List Bytes → List (Nat × Bytes) → List Bytes → Prop) (ids : List Bytes) :
    UInt8 → Bytes → List (Nat × Bytes) → Prop where
  | small : (ids.length : Int) ≤ cfg.b → Case P ids 0 ids.flatten []
  | medium (blocks : List Bytes) (pds : List (Nat × Bytes)) (ptrs : List Bytes) :
      cfg.b < (ids.length : Int) → (ids.length : Int) ≤ cfg.B * cfg.bp →
      partitionBlocks ids cfg.B cfg.idSize (cfg.B * cfg.idSize) = .ok blocks →
      P 0 blocks pds ptrs → Case P ids 1 ptrs.flatten pds
  | large (blocks : List Bytes) (pds : List (Nat × Bytes)) (ptrs : List Bytes) (pblocks : List Bytes) (qds : List (Nat × Bytes))
      (ptrs2 : List Bytes) :
      cfg.b < (ids.length : Int) → cfg.B * cfg.bp < (ids.length : Int) → (ids.length : Int) < (cfg.B * cfg.Bp) * cfg.bp →
      partitionBlocks ids cfg.B cfg.idSize (cfg.B * cfg.idSize) = .ok blocks → P 0 blocks pds ptrs →
      partitionBlocks ptrs cfg.Bp cfg.idxSize (cfg.B * cfg.idSize) = .ok pblocks → P 1 pblocks qds ptrs2 →
      Case P ids 1 ptrs2.flatten (pds ++ qds)

/-- during `setup`: the blocks went, marked and encrypted under draws of `t`, into the cells `pds`; `ptrs` are the slot numbers -/
structure Laid (t : Tape) (K2 : Bytes) (mark : UInt8) (blocks : List Bytes) (pds : List (Nat × Bytes)) (ptrs : List Bytes) :
    Prop where
  enc : Forall₂ (fun blk pd => Enc cfg.ske lv t K2 (mark :: blk) pd.2) blocks pds
  ptr : Forall₂ (fun pd ptr => intToBytes pd.1 cfg.idxSize = .ok ptr) pds ptrs

/-- array slots `arrayLen` reserves for a list of `n` identifiers.  A layout may take fewer (`Case.count_le`): a list with
    `b'·B < n ≤ b` goes to the dictionary alone and still has `⌈n/(B·B')⌉` slots reserved, as in construction.py. -/
def needed (n : Nat) : Nat :=
  (if (n : Int) > cfg.b then ceilDiv n cfg.B.toNat else 0) +
  (if (n : Int) > cfg.bp * cfg.B then ceilDiv n (cfg.B * cfg.Bp).toNat else 0)

section
variable {cfg} {lv}

theorem GoodCfg.block (hg : GoodCfg cfg) : 0 < cfg.B * cfg.idSize := Int.mul_pos hg.B hg.ids

/-- `hpq` may use that the cells of a sub-layout are among the keyword's cells -/
theorem Case.imp {P Q : UInt8 → List Bytes → List (Nat × Bytes) → List Bytes → Prop} {ids : List Bytes} {mark : UInt8}
    {content : Bytes} {pds : List (Nat × Bytes)} (h : Case cfg P ids mark content pds)
    (hpq : ∀ m blocks pds' ptrs, (∀ pd ∈ pds', pd ∈ pds) → P m blocks pds' ptrs → Q m blocks pds' ptrs) :
    Case cfg Q ids mark content pds := by
  cases h with
  | small h1 => exact .small h1
  | medium blocks pds ptrs h1 h2 h3 h4 => exact .medium blocks pds ptrs h1 h2 h3 (hpq _ _ _ _ (fun _ h => h) h4)
  | large blocks pds ptrs pblocks qds ptrs2 h0 h1 h1' h2 h3 h4 h5 =>
    have h3' := hpq _ _ _ _ (fun _ h => List.mem_append_left _ h) h3
    have h5' := hpq _ _ _ _ (fun _ h => List.mem_append_right _ h) h5
    exact .large blocks pds ptrs pblocks qds ptrs2 h0 h1 h1' h2 h3' h4 h5'

theorem Laid.lens {t : Tape} {K2 : Bytes} {mark : UInt8} {blocks : List Bytes} {pds : List (Nat × Bytes)} {ptrs : List Bytes}
    (h : Laid cfg lv t K2 mark blocks pds ptrs) (hidx : 0 ≤ cfg.idxSize) :
    pds.length = blocks.length ∧ ptrs.length = blocks.length ∧ ∀ p ∈ ptrs, p.length = cfg.idxSize.toNat := by
  refine ⟨h.enc.length_right, by rw [h.ptr.length_right, h.enc.length_right], fun p hp => ?_⟩
  obtain ⟨pd, _, hpd⟩ := h.ptr.of_mem_right hp
  obtain ⟨_, hlen, _⟩ := ptr_valid_int hidx hpd
  exact hlen

theorem Laid.mono {t t' : Tape} {K2 : Bytes} {mark : UInt8} {blocks : List Bytes} {pds : List (Nat × Bytes)} {ptrs : List Bytes}
    (hs : Suffix t' t) (h : Laid cfg lv t' K2 mark blocks pds ptrs) : Laid cfg lv t K2 mark blocks pds ptrs :=
  ⟨h.enc.imp fun _ _ e => e.mono hs, h.ptr⟩

theorem le_needed {n : Nat} (h : cfg.b < (n : Int)) : ceilDiv n cfg.B.toNat ≤ needed cfg n := by
  unfold needed
  rw [if_pos h]
  exact Nat.le_add_right _ _

theorem needed_of_large (hg : GoodCfg cfg) {n : Nat} (h1 : cfg.b < (n : Int)) (h2 : cfg.B * cfg.bp < (n : Int)) :
    needed cfg n = ceilDiv n cfg.B.toNat + ceilDiv (ceilDiv n cfg.B.toNat) cfg.Bp.toNat := by
  have hB := hg.B
  have hBp := hg.Bp
  have h2' : (n : Int) > cfg.bp * cfg.B := by rw [Int.mul_comm]; exact h2
  unfold needed
  rw [if_pos h1, if_pos h2', toNat_mul cfg.B cfg.Bp hB hBp, ceilDiv_ceilDiv _ _ _ (by omega) (by omega)]

theorem arrayLen_eq (db : DB) : arrayLen cfg db = 1 + (db.map fun p => needed cfg p.2.length).sum := rfl

theorem block_len (hpos : 0 < cfg.B * cfg.idSize) {items blocks : List Bytes} {cap sz : Int}
    (h : partitionBlocks items cap sz (cfg.B * cfg.idSize) = .ok blocks) (hcap : 0 < cap) (hsz : 0 ≤ sz)
    (hv : ∀ x ∈ items, x.length = sz.toNat) : ∀ b ∈ blocks, b.length = (cfg.B * cfg.idSize).toNat := by
  intro b hb
  rw [(partitionBlocks_inv h hcap hsz (Int.le_of_lt hpos)).2 hv b hb, C17.effBs, if_neg (by omega)]

/-- the pointer blocks fit the array block: `B' · ⌊B·idsize / B'⌋ ≤ B · idsize` -/
theorem ptr_block_fits (hg : GoodCfg cfg) : cfg.Bp * cfg.idxSize ≤ cfg.B * cfg.idSize := by
  have hle : cfg.Bp.toNat * cfg.idxSize.toNat ≤ (cfg.B * cfg.idSize).toNat := by
    rw [← hg.idx2, Nat.mul_comm]; exact Nat.div_mul_le_self _ _
  have hpos := hg.block
  rw [← toNat_mul _ _ hg.Bp hg.idx] at hle
  omega

theorem le_toNat_mul {n : Nat} {a b : Int} (ha : 0 < a) (hb : 0 < b) (h : (n : Int) ≤ a * b) : n ≤ a.toNat * b.toNat := by
  rw [← toNat_mul a b ha hb]
  omega

/-- the content is a small list, at most `b'` pointers, or at most `b'` second-level pointers; `P` need only say how many
    pointers there are and how long -/
theorem Case.content_fits (hg : GoodCfg cfg) {P : UInt8 → List Bytes → List (Nat × Bytes) → List Bytes → Prop}
    (hP : ∀ m blocks pds ptrs, P m blocks pds ptrs → ptrs.length = blocks.length ∧ ∀ p ∈ ptrs, p.length = cfg.idxSize.toNat)
    {ids : List Bytes} (hids : ∀ id ∈ ids, id.length = cfg.idSize.toNat) {mark : UInt8} {content : Bytes}
    {pds : List (Nat × Bytes)} (h : Case cfg P ids mark content pds) : content.length ≤ (cfg.b * cfg.idSize).toNat := by
  have hBn : 0 < cfg.B.toNat := Int.lt_toNat.mpr hg.B
  have hbpidx : cfg.bp.toNat * cfg.idxSize.toNat ≤ (cfg.b * cfg.idSize).toNat := by
    rw [← hg.idx1, Nat.mul_comm]; exact Nat.div_mul_le_self _ _
  have few : ∀ ptrs : List Bytes, (∀ p ∈ ptrs, p.length = cfg.idxSize.toNat) → ptrs.length ≤ cfg.bp.toNat →
      ptrs.flatten.length ≤ (cfg.b * cfg.idSize).toNat := fun ptrs hl hc => by
    rw [flatten_length_of_all _ ptrs hl]
    exact Nat.le_trans (Nat.mul_le_mul_right _ hc) hbpidx
  have count := fun {items blocks : List Bytes} {cap sz : Int} (hcap : 0 < cap) (hsz : 0 < sz)
      (hbl : partitionBlocks items cap sz (cfg.B * cfg.idSize) = .ok blocks) =>
    (partitionBlocks_inv hbl hcap (Int.le_of_lt hsz) (Int.le_of_lt hg.block)).1
  cases h with
  | small hn =>
    rw [flatten_length_of_all _ ids hids, toNat_mul cfg.b cfg.idSize hg.b hg.ids]
    exact Nat.mul_le_mul_right _ (Int.le_toNat (Int.le_of_lt hg.b) |>.mpr hn)
  | medium blocks pds ptrs _ hn hbl hp =>
    obtain ⟨p1, p2⟩ := hP _ _ _ _ hp
    refine few ptrs p2 ?_
    rw [p1, count hg.B hg.ids hbl]
    exact (ceilDiv_le_iff hBn).mpr (le_toNat_mul hg.B hg.bp hn)
  | large blocks pds ptrs pblocks qds ptrs2 _ _ hn hbl hp hpb hq =>
    obtain ⟨p1, p2⟩ := hP _ _ _ _ hp
    obtain ⟨q1, q2⟩ := hP _ _ _ _ hq
    refine few ptrs2 q2 ?_
    rw [q1, count hg.Bp hg.idx hpb, p1, count hg.B hg.ids hbl, ceilDiv_ceilDiv _ _ _ hBn (Int.lt_toNat.mpr hg.Bp),
      ← toNat_mul _ _ hg.B hg.Bp]
    exact (ceilDiv_le_iff (Int.lt_toNat.mpr (Int.mul_pos hg.B hg.Bp))).mpr
      (le_toNat_mul (Int.mul_pos hg.B hg.Bp) hg.bp (Int.le_of_lt hn))

/-- The block's length needs a good configuration and identifiers of the configured size; it is an implication under the
    existential because C04 uses the first half without either. -/
theorem Case.cell {t : Tape} {K2 : Bytes} {ids : List Bytes} {mark : UInt8} {content : Bytes} {pds : List (Nat × Bytes)}
    (h : Case cfg (Laid cfg lv t K2) ids mark content pds) {pd : Nat × Bytes} (hpd : pd ∈ pds) :
    ∃ m blk, Enc cfg.ske lv t K2 (m :: blk) pd.2 ∧
      (GoodCfg cfg → (∀ id ∈ ids, id.length = cfg.idSize.toNat) → blk.length = (cfg.B * cfg.idSize).toNat) := by
  cases h with
  | small => cases hpd
  | medium blocks pds ptrs _ _ hbl hp =>
    obtain ⟨blk, hblk, e⟩ := hp.enc.of_mem_right hpd
    exact ⟨0, blk, e, fun hg hids => block_len hg.block hbl hg.B (Int.le_of_lt hg.ids) hids blk hblk⟩
  | large blocks pds ptrs pblocks qds ptrs2 _ _ _ hbl hp hpb hq =>
    rcases List.mem_append.mp hpd with hpd | hpd
    · obtain ⟨blk, hblk, e⟩ := hp.enc.of_mem_right hpd
      exact ⟨0, blk, e, fun hg hids => block_len hg.block hbl hg.B (Int.le_of_lt hg.ids) hids blk hblk⟩
    · obtain ⟨blk, hblk, e⟩ := hq.enc.of_mem_right hpd
      refine ⟨1, blk, e, fun hg _ => ?_⟩
      -- a block of pointers: these have `idxSize` bytes each
      obtain ⟨_, _, hptrlen⟩ := hp.lens (Int.le_of_lt hg.idx)
      exact block_len hg.block hpb hg.Bp (Int.le_of_lt hg.idx) hptrlen blk hblk

theorem Case.count_le (hg : GoodCfg cfg) {t : Tape} {K2 : Bytes} {ids : List Bytes} {mark : UInt8} {content : Bytes}
    {pds : List (Nat × Bytes)} (h : Case cfg (Laid cfg lv t K2) ids mark content pds) : pds.length ≤ needed cfg ids.length := by
  have hB := hg.B
  have hBp := hg.Bp
  have hI := hg.ids
  have hidx := Int.le_of_lt hg.idx
  have hbs := Int.le_of_lt hg.block
  cases h with
  | small => exact Nat.zero_le _
  | medium blocks pds ptrs hn _ hbl hp =>
    have hblocks : blocks.length = ceilDiv ids.length cfg.B.toNat :=
      (partitionBlocks_inv hbl hB (Int.le_of_lt hI) hbs).1
    rw [(hp.lens hidx).1, hblocks]
    exact le_needed hn
  | large blocks pds ptrs pblocks qds ptrs2 hn hn2 _ hbl hp hpb hq =>
    obtain ⟨hpds, hptrs, _⟩ := hp.lens hidx
    obtain ⟨hqds, _, _⟩ := hq.lens hidx
    have hblocks : blocks.length = ceilDiv ids.length cfg.B.toNat :=
      (partitionBlocks_inv hbl hB (Int.le_of_lt hI) hbs).1
    have hpblocks : pblocks.length = ceilDiv ptrs.length cfg.Bp.toNat := (partitionBlocks_inv hpb hBp hidx hbs).1
    rw [needed_of_large hg hn hn2, List.length_append, hpds, hqds, hpblocks, hptrs, hblocks]
    exact Nat.le_refl _

end

theorem placeBlocks_eq (K2 : Bytes) (mark : UInt8) (blocks : List Bytes)
    (avail : List Nat) (A : List (Option Bytes)) (t : Tape) :
    placeBlocks cfg lv K2 mark blocks avail A t =
      placeG cfg.ske lv (fun pos => intToBytes pos cfg.idxSize) K2 (blocks.map (mark :: ·)) avail A t := by
  induction blocks generalizing avail A t with
  | nil => rfl
  | cons blk rest ih =>
    rw [List.map_cons]
    unfold placeBlocks placeG
    cases avail.getLast? with
    | none => rfl
    | some pos => simp only [ih]

theorem placeBlocks_inv {K2 : Bytes} {mark : UInt8} {blocks : List Bytes} {avail : List Nat} {A : List (Option Bytes)} {t : Tape}
    {ptrs : List Bytes} {avail' : List Nat} {A' : List (Option Bytes)} {t' : Tape}
    (h : placeBlocks cfg lv K2 mark blocks avail A t = .ok (ptrs, avail', A', t')) :
    ∃ pds, Wrote A avail avail' A' pds ∧ Laid cfg lv t K2 mark blocks pds ptrs ∧ Suffix t' t := by
  rw [placeBlocks_eq] at h
  obtain ⟨pds, w, e, p, s⟩ := placeG_inv h
  exact ⟨pds, w, ⟨e.of_map_left, p⟩, s⟩

theorem dictEntry_inv {K1 K2 : Bytes} {mark : UInt8} {content : Bytes} {t t' : Tape} {e : Bytes × Bytes}
    (h : dictEntry cfg lv K1 K2 mark content t = .ok (e, t')) :
    cfg.prfF.call lv.hmac K1 [0] = .ok e.1 ∧
    Enc cfg.ske lv t K2 (mark :: (content ++ zeros ((cfg.b * cfg.idSize).toNat - content.length))) e.2 ∧ Suffix t' t := by
  simp only [dictEntry, ok_inv] at h
  obtain ⟨l, hl, ⟨d, t1⟩, hd, h⟩ := h
  cases h
  exact ⟨hl, skeEncrypt_enc hd⟩

theorem storeKeyword_inv {K1 K2 : Bytes} {ids : List Bytes} {avail : List Nat} {A : List (Option Bytes)} {t : Tape}
    {e : Bytes × Bytes} {avail' : List Nat} {A' : List (Option Bytes)} {t' : Tape}
    (h : storeKeyword cfg lv K1 K2 ids avail A t = .ok (e, avail', A', t')) :
    ∃ pds mark content, Wrote A avail avail' A' pds ∧ cfg.prfF.call lv.hmac K1 [0] = .ok e.1 ∧
      Enc cfg.ske lv t K2 (mark :: (content ++ zeros ((cfg.b * cfg.idSize).toNat - content.length))) e.2 ∧
      Case cfg (Laid cfg lv t K2) ids mark content pds ∧ Suffix t' t := by
  simp only [storeKeyword, ok_inv] at h
  -- `ok_inv` turns the three-armed `if` into a nested disjunction, each arm with its own test after the negated tests
  -- of the arms before it; the final `throw` leaves no case
  rcases h with hsmall | ⟨c1, hmedium | hlarge⟩
  · -- at most `b` identifiers: the list itself is the content, no cell is written
    obtain ⟨c1, ⟨e0, t1⟩, h1, h⟩ := hsmall
    cases h
    obtain ⟨d1, d2, d3⟩ := dictEntry_inv cfg lv h1
    exact ⟨[], 0, _, .refl _ _, d1, d2, .small c1, d3⟩
  · -- at most `B · b'` identifiers: one level of cells, their pointers are the content
    obtain ⟨c2, blocks, h1, ⟨ptrs, av1, A1, t1⟩, h2, ⟨e0, t2⟩, h3, h⟩ := hmedium
    cases h
    obtain ⟨pds, w, l, s⟩ := placeBlocks_inv cfg lv h2
    obtain ⟨d1, d2, d3⟩ := dictEntry_inv cfg lv h3
    exact ⟨pds, 1, _, w, d1, d2.mono s, .medium blocks pds ptrs (Int.not_le.mp c1) c2 h1 l, d3.trans s⟩
  · -- fewer than `B · B' · b'` identifiers: the pointers go into cells of their own; the content points to those
    obtain ⟨c2, c3, blocks, h1, ⟨ptrs, av1, A1, t1⟩, h2, pblocks, h3, ⟨ptrs2, av2, A2, t2⟩, h4,
      ⟨e0, t3⟩, h5, h⟩ := hlarge
    cases h
    obtain ⟨pds, w, l, s⟩ := placeBlocks_inv cfg lv h2
    obtain ⟨qds, w', l', s'⟩ := placeBlocks_inv cfg lv h4
    obtain ⟨d1, d2, d3⟩ := dictEntry_inv cfg lv h5
    have hcase : Case cfg (Laid cfg lv t K2) ids 1 ptrs2.flatten (pds ++ qds) :=
      .large blocks pds ptrs pblocks qds ptrs2 (Int.not_le.mp c1) (Int.not_le.mp c2) c3 h1 l h3 (l'.mono s)
    exact ⟨pds ++ qds, 1, _, w.trans w', d1, d2.mono (s'.trans s), hcase, d3.trans (s'.trans s)⟩

/-- what `encDb` computes for one keyword; `mark` and `content` are those of the dictionary entry `entry` -/
structure Kw where
  K1 : Bytes
  K2 : Bytes
  mark : UInt8
  content : Bytes
  entry : Bytes × Bytes
  cells : List (Nat × Bytes)

structure KwOK (K : Bytes) (t : Tape) (p : Bytes × List Bytes) (r : Kw) : Prop where
  token : token cfg lv K p.1 = .ok (r.K1, r.K2)
  label : cfg.prfF.call lv.hmac r.K1 [0] = .ok r.entry.1
  value :
    Enc cfg.ske lv t r.K2 (r.mark :: (r.content ++ zeros ((cfg.b * cfg.idSize).toNat - r.content.length))) r.entry.2
  layout : Case cfg (Laid cfg lv t r.K2) p.2 r.mark r.content r.cells

variable {cfg lv} in
theorem KwOK.mono {K : Bytes} {t t' : Tape} {p : Bytes × List Bytes} {r : Kw}
    (hs : Suffix t' t) (h : KwOK cfg lv K t' p r) : KwOK cfg lv K t p r :=
  { h with
    value := h.value.mono hs
    layout := h.layout.imp fun _ _ _ _ _ l => l.mono hs }

theorem encDb_inv {K : Bytes} {db : DB} {avail : List Nat} {A : List (Option Bytes)} {t : Tape} {L : List (Bytes × Bytes)}
    {A' : List (Option Bytes)} {t' : Tape} (h : encDb cfg lv K db avail A t = .ok (L, A', t')) :
    ∃ avail' recs, Forall₂ (KwOK cfg lv K t) db recs ∧ L = recs.map Kw.entry ∧
      Wrote A avail avail' A' (recs.flatMap Kw.cells) ∧ Suffix t' t := by
  induction db generalizing avail A t L with
  | nil =>
    simp only [encDb, ok_inv, Prod.mk.injEq] at h
    obtain ⟨rfl, rfl, rfl⟩ := h
    exact ⟨avail, [], .nil, rfl, .refl _ _, .refl _⟩
  | cons q rest ih =>
    obtain ⟨w, ids⟩ := q
    simp only [encDb, ok_inv] at h
    obtain ⟨⟨K1, K2⟩, htk, ⟨e, avail1, A1, t1⟩, hst, ⟨qs, A2, t2⟩, hr, h⟩ := h
    cases h
    obtain ⟨pds, mark, content, w1, l1, e1, c1, s1⟩ := storeKeyword_inv cfg lv hst
    obtain ⟨avail', recs, f, rfl, w2, s2⟩ := ih hr
    have hkw : KwOK cfg lv K t (w, ids)
        { K1 := K1, K2 := K2, mark := mark, content := content, entry := e, cells := pds } :=
      { token := htk, label := l1, value := e1, layout := c1 }
    exact ⟨avail', _ :: recs, .cons hkw (f.imp fun _ _ k => k.mono s1), rfl, w1.trans w2, s2.trans s1⟩

theorem setup_inv {K : Bytes} {db : DB} {t t' : Tape} {edb : PiPtrEDB} (h : setup cfg lv K db t = .ok (edb, t')) :
    ∃ sample t0 L, 0 ≤ cfg.idxSize ∧ arrayLen cfg db ≤ 2 ^ (cfg.idxSize * 8).toNat ∧ takeNats t = .ok (sample, t0) ∧
      sample.length = arrayLen cfg db - 1 ∧
      encDb cfg lv K db sample (List.replicate (arrayLen cfg db) none) t0 = .ok (L, edb.A, t') ∧ edb.D = buildTable L := by
  simp only [setup, ok_inv] at h
  obtain ⟨h0, h1, ⟨sample, t0⟩, h2, h3, ⟨L, A, t1⟩, h4, h⟩ := h
  cases h
  exact ⟨sample, t0, L, Int.not_lt.mp h0, Nat.not_lt.mp h1, h2, Decidable.not_not.mp h3, h4, rfl⟩

variable {cfg lv} in
theorem cell_of {K : Bytes} {t : Tape} {db : DB} {recs : List Kw} {n : Nat}
    {sample avail' : List Nat} {A : List (Option Bytes)} (f : Forall₂ (KwOK cfg lv K t) db recs)
    (w : Wrote (List.replicate n none) sample avail' A (recs.flatMap Kw.cells)) {c : Bytes} (hc : some c ∈ A) :
    ∃ p ∈ db, ∃ K2 m blk, Enc cfg.ske lv t K2 (m :: blk) c ∧
      (GoodCfg cfg → (∀ id ∈ p.2, id.length = cfg.idSize.toNat) → blk.length = (cfg.B * cfg.idSize).toNat) := by
  obtain ⟨pd, hpd, rfl⟩ := w.cell_of_empty hc
  obtain ⟨r, hr, hpdr⟩ := List.mem_flatMap.mp hpd
  obtain ⟨p, hp, k⟩ := f.of_mem_right hr
  obtain ⟨m, blk, e, hlen⟩ := k.layout.cell hpdr
  exact ⟨p, hp, r.K2, m, blk, e, hlen⟩

theorem encDb_shape (hl : LeafLaws lv) (hh : cfg.prfF.hashLen = 20) (hg : GoodCfg cfg) {K : Bytes} {n : Nat} {db : DB}
    {sample : List Nat} {t t' : Tape} {L : List (Bytes × Bytes)} {A : List (Option Bytes)}
    (h : encDb cfg lv K db sample (List.replicate n none) t = .ok (L, A, t'))
    (hids : ∀ p ∈ db, ∀ id ∈ p.2, id.length = cfg.idSize.toNat) :
    A.length = n ∧
    (∀ c, some c ∈ A → c.length = PiPtr.clen (1 + (cfg.B * cfg.idSize).toNat)) ∧
    L.map (fun p => (p.1.length, p.2.length)) =
      List.replicate db.length (cfg.prfF.outputLength.toNat, PiPtr.clen (1 + (cfg.b * cfg.idSize).toNat)) := by
  obtain ⟨avail', recs, f, rfl, w, _⟩ := encDb_inv cfg lv h
  refine ⟨by rw [w.length, List.length_replicate], fun c hc => ?_, ?_⟩
  · obtain ⟨p, hp, _, m, blk, e, hlen⟩ := cell_of f w hc
    rw [e.length_clen hl.enc_len, List.length_cons, hlen hg (hids p hp), Nat.add_comm]
  · refine List.eq_replicate_iff.mpr ⟨by rw [List.length_map, List.length_map, f.length_right], fun x hx => ?_⟩
    obtain ⟨e, he, rfl⟩ := List.mem_map.mp hx
    obtain ⟨r, hr, rfl⟩ := List.mem_map.mp he
    obtain ⟨p, hp, k⟩ := f.of_mem_right hr
    have hfit := k.layout.content_fits hg (fun _ _ _ _ l => (l.lens (Int.le_of_lt hg.idx)).2) (hids p hp)
    rw [prf_len hl.hmac_len hh k.label, k.value.length_clen hl.enc_len, List.length_cons, List.length_append, zeros,
      List.length_replicate, Nat.add_sub_cancel' hfit, Nat.add_comm]

variable {cfg} in
theorem array_blocks_roundtrip (hpos : 0 < cfg.B * cfg.idSize) {items : List Bytes} {cap sz : Int} (hcap : 0 < cap) (hsz : 0 < sz)
    (hfit : cap * sz ≤ cfg.B * cfg.idSize) (hdiv : (cfg.B * cfg.idSize).toNat / cap.toNat = sz.toNat)
    (hv : C17.ValidIds items sz.toNat) {blocks : List Bytes}
    (hb : partitionBlocks items cap sz (cfg.B * cfg.idSize) = .ok blocks) :
    ∃ parts, mapE (fun b => parseByCount b cap) blocks = .ok parts ∧ parts.flatten = items := by
  -- the block size is given (`B · idsize > 0`), so it is the effective one
  have heff : C17.effBs cap.toNat sz.toNat (cfg.B * cfg.idSize).toNat / cap.toNat = sz.toNat := by
    rw [C17.effBs, if_neg (by omega)]
    exact hdiv
  exact blocks_roundtrip_count hcap hsz (Or.inr hfit) heff hv hb

theorem readCells_placed (edb : PiPtrEDB) (level : Nat) (hlev : level ≠ 0) (hidx : 0 ≤ cfg.idxSize) {K2 : Bytes}
    {mark : UInt8} {blocks : List Bytes} {poss : List Nat} {ptrs : List Bytes}
    (hP : Placed cfg lv K2 mark edb.A blocks poss ptrs) :
    ∃ cells, readCells edb level ptrs = .ok cells ∧ decAllOpt cfg lv K2 cells = .ok (blocks.map (mark :: ·)) := by
  induction hP with
  | nil => exact ⟨[], by simp [readCells, hlev, mapE], rfl⟩
  | cons blk rest pos poss ptr ptrs d h1 h2 h3 _ ih =>
    obtain ⟨cells, c1, c2⟩ := ih
    have hp := (ptr_valid_int hidx h1).1
    simp only [readCells, hlev, if_false] at c1 ⊢
    refine ⟨some d :: cells, ?_, ?_⟩
    · exact mapE_cons_eq_ok.mpr ⟨some d, by simp only [hp, h2], cells, c1, rfl⟩
    · simp only [decAllOpt, h3, c2, ok_bind, pure_eq, List.map_cons]

theorem parseAll_blocks {count : Int} (mark : UInt8) {blocks : List Bytes} {parts : List (List Bytes)}
    (h : mapE (fun b => parseByCount b count) blocks = .ok parts) :
    parseAll count (blocks.map (mark :: ·)) = .ok parts.flatten := by
  induction blocks generalizing parts with
  | nil => cases h; rfl
  | cons b rest ih =>
    obtain ⟨xs, hxs, ps, hps, rfl⟩ := mapE_cons_eq_ok.mp h
    simp [parseAll, hxs, ih hps, ok_bind, pure_eq]

theorem parse_padded (items : List Bytes) {sz count : Int} (hsz : 0 < sz) (hcount : 0 < count)
    (hv : C17.ValidIds items sz.toNat) {total : Nat} (hfit : items.flatten.length ≤ total)
    (hdiv : total / count.toNat = sz.toNat) :
    parseByCount (items.flatten ++ zeros (total - items.flatten.length)) count = .ok items := by
  have hlen : (items.flatten ++ zeros (total - items.flatten.length)).length = total := by
    rw [List.length_append, zeros, List.length_replicate, Nat.add_sub_cancel' hfit]
  rw [parseByCount_eq hcount (hlen ▸ hdiv)]
  unfold parseBySizeNat
  rw [if_neg (by omega), parseLoop_flatten_zeros sz.toNat (Int.lt_toNat.mpr hsz) items _ _ hv (Nat.le_refl _)]

theorem levelLoop_step (edb : PiPtrEDB) (K2 : Bytes) (fuel level : Nat) (hlev : level ≤ 2) {prev : List Bytes}
    {cells : List (Option Bytes)} {mark : UInt8} {b0 : Bytes} {bs : List Bytes} {cur : List Bytes}
    (hread : readCells edb level prev = .ok cells) (hdec : decAllOpt cfg lv K2 cells = .ok ((mark :: b0) :: bs))
    (hparse : parseAll (if level = 0 then (if [mark] == [1] then cfg.bp else cfg.b) else (if [mark] == [1] then cfg.Bp else cfg.B))
        ((mark :: b0) :: bs) = .ok cur) :
    levelLoop cfg lv edb K2 (fuel + 1) level prev =
      if [mark] == [0] then .ok cur else levelLoop cfg lv edb K2 fuel (level + 1) cur := by
  simp only [levelLoop, hread, hdec, ok_bind, pure_eq, List.head?_cons, List.take_succ_cons, List.take_zero,
    Nat.not_lt.mpr hlev, if_false]
  -- the `Decidable` instances still hold `List.take 1 (mark :: b0)`, which `simp` leaves: `hparse` applies by unfolding
  exact congrArg (· >>= _) hparse

/-- at search time: the marked blocks sit in the array `A` at the slots of `pds`, and the pointers to them are non-zero strings
    of `idxSize` bytes (no block is at slot 0) -/
structure Sits (K2 : Bytes) (A : List (Option Bytes)) (mark : UInt8) (blocks : List Bytes) (pds : List (Nat × Bytes))
    (ptrs : List Bytes) : Prop where
  placed : Placed cfg lv K2 mark A blocks (pds.map (·.1)) ptrs
  valid : C17.ValidIds ptrs cfg.idxSize.toNat

theorem levelLoop_sits (hidx : 0 ≤ cfg.idxSize) (edb : PiPtrEDB) {K2 : Bytes} (fuel level : Nat) (h1 : level ≠ 0) (h2 : level ≤ 2)
    {mark : UInt8} {blocks : List Bytes} {pds : List (Nat × Bytes)} {ptrs : List Bytes}
    (hS : Sits cfg lv K2 edb.A mark blocks pds ptrs) (hne : blocks ≠ []) {parts : List (List Bytes)}
    (hparts : mapE (fun b => parseByCount b (if [mark] == [1] then cfg.Bp else cfg.B)) blocks = .ok parts) :
    levelLoop cfg lv edb K2 (fuel + 1) level ptrs =
      if [mark] == [0] then .ok parts.flatten else levelLoop cfg lv edb K2 fuel (level + 1) parts.flatten := by
  obtain ⟨cells, hread, hdec⟩ := readCells_placed cfg lv edb level h1 hidx hS.placed
  obtain ⟨b0, bs, rfl⟩ := List.exists_cons_of_ne_nil hne
  have hparse : parseAll
      (if level = 0 then (if [mark] == [1] then cfg.bp else cfg.b) else (if [mark] == [1] then cfg.Bp else cfg.B))
      ((mark :: b0) :: bs.map (mark :: ·)) = .ok parts.flatten := by
    rw [if_neg h1]
    exact parseAll_blocks mark hparts
  exact levelLoop_step cfg lv edb K2 fuel level h2 hread hdec hparse

theorem levelLoop_dict (edb : PiPtrEDB) {K2 : Bytes} (fuel : Nat) {l0 dE : Bytes} (hget : edb.D.get l0 = some dE)
    {mark : UInt8} {padded : Bytes} (hdec : cfg.ske.decrypt lv.D K2 dE = .ok (mark :: padded)) {items : List Bytes}
    (hparse : parseByCount padded (if [mark] == [1] then cfg.bp else cfg.b) = .ok items) :
    levelLoop cfg lv edb K2 (fuel + 1) 0 [l0] = if [mark] == [0] then .ok items else levelLoop cfg lv edb K2 fuel 1 items := by
  have hread : readCells edb 0 [l0] = .ok [some dE] := by simp [readCells, mapE, hget, ok_bind, pure_eq]
  have hdecAll : decAllOpt cfg lv K2 [some dE] = .ok [mark :: padded] := by simp [decAllOpt, hdec, ok_bind, pure_eq]
  have hparseAll : parseAll
      (if (0 : Nat) = 0 then (if [mark] == [1] then cfg.bp else cfg.b) else (if [mark] == [1] then cfg.Bp else cfg.B))
      [mark :: padded] = .ok items := by
    simp only [↓reduceIte, parseAll, List.drop_succ_cons, List.drop_zero, hparse, ok_bind, pure_eq, List.append_nil]
  exact levelLoop_step cfg lv edb K2 fuel 0 (by decide) hread hdecAll hparseAll

theorem levelLoop_case (hg : GoodCfg cfg) (edb : PiPtrEDB) {K2 : Bytes} {ids : List Bytes} {l0 dE : Bytes}
    (hget : edb.D.get l0 = some dE) (hv : C17.ValidIds ids cfg.idSize.toNat) (hne : ids ≠ [])
    {mark : UInt8} {content : Bytes}
    (hdec : cfg.ske.decrypt lv.D K2 dE = .ok (mark :: (content ++ zeros ((cfg.b * cfg.idSize).toNat - content.length))))
    {pds : List (Nat × Bytes)} (hcase : Case cfg (Sits cfg lv K2 edb.A) ids mark content pds) :
    levelLoop cfg lv edb K2 4 0 [l0] = .ok ids := by
  have hB := hg.B
  have hb := hg.b
  have hBp := hg.Bp
  have hbp := hg.bp
  have hI := hg.ids
  have hidx0 : 0 ≤ cfg.idxSize := Int.le_of_lt hg.idx
  have hbs : 0 ≤ cfg.B * cfg.idSize := Int.le_of_lt hg.block
  have hptrs : ∀ m blocks pds ptrs, Sits cfg lv K2 edb.A m blocks pds ptrs →
      ptrs.length = blocks.length ∧ ∀ p ∈ ptrs, p.length = cfg.idxSize.toNat :=
    fun _ _ _ _ s => ⟨s.placed.lengths.2, fun p hp => (s.valid p hp).1⟩
  have hfit : content.length ≤ (cfg.b * cfg.idSize).toNat := hcase.content_fits hg hptrs fun id hid => (hv id hid).1
  -- a block of `x · idsize` bytes, parsed by entry count `x`, gives identifiers of `idsize` bytes
  have hdiv : ∀ x : Int, 0 < x → (x * cfg.idSize).toNat / x.toNat = cfg.idSize.toNat := fun x hx => by
    rw [toNat_mul x cfg.idSize hx hI]
    exact Nat.mul_div_cancel_left _ (Int.lt_toNat.mpr hx)
  have idblocks : ∀ blocks, partitionBlocks ids cfg.B cfg.idSize (cfg.B * cfg.idSize) = .ok blocks →
      (∃ parts, mapE (fun b => parseByCount b cfg.B) blocks = .ok parts ∧ parts.flatten = ids) ∧ blocks ≠ [] :=
    fun blocks hbl => ⟨array_blocks_roundtrip hg.block hB hI (Int.le_refl _) (hdiv cfg.B hB) hv hbl,
      partitionBlocks_ne_nil hbl hB (Int.le_of_lt hI) hbs hne⟩
  -- fuel 4: the dictionary round and two array levels, one to spare; the literals below are the fuel left after each
  -- round.  Each case ends at a round whose mark is 0, where the loop returns: the closing `rfl` evaluates
  -- `[0] == [0]`.
  cases hcase with
  | small hn =>
    rw [levelLoop_dict cfg lv edb 3 hget hdec (parse_padded ids hI hb hv hfit (hdiv cfg.b hb))]
    rfl
  | medium blocks pds ptrs hn1 hn2 hbl hS =>
    obtain ⟨⟨parts, hparts, hflat⟩, hbne⟩ := idblocks blocks hbl
    rw [levelLoop_dict cfg lv edb 3 hget hdec (parse_padded ptrs hg.idx hbp hS.valid hfit hg.idx1),
      if_neg (by decide), levelLoop_sits cfg lv hidx0 edb 2 1 (by decide) (by decide) hS hbne hparts, hflat]
    rfl
  | large blocks pds ptrs pblocks qds ptrs2 _ hn1 hn2 hbl hS hpb hS2 =>
    obtain ⟨⟨parts, hparts, hflat⟩, hbne⟩ := idblocks blocks hbl
    obtain ⟨pparts, hpparts, hpflat⟩ :=
      array_blocks_roundtrip hg.block hBp hg.idx (ptr_block_fits hg) hg.idx2 hS.valid hpb
    have hptrsne : ptrs ≠ [] := by
      intro e
      have hlen : blocks.length = 0 := by rw [← hS.placed.lengths.2, e, List.length_nil]
      exact hbne (List.length_eq_zero_iff.mp hlen)
    have hpbne : pblocks ≠ [] := partitionBlocks_ne_nil hpb hBp hidx0 hbs hptrsne
    rw [levelLoop_dict cfg lv edb 3 hget hdec (parse_padded ptrs2 hg.idx hbp hS2.valid hfit hg.idx1),
      if_neg (by decide), levelLoop_sits cfg lv hidx0 edb 2 1 (by decide) (by decide) hS2 hpbne hpparts,
      if_neg (by decide), hpflat, levelLoop_sits cfg lv hidx0 edb 1 2 (by decide) (by decide) hS hbne hparts, hflat]
    rfl

theorem search_present (hde : Decrypts cfg.ske lv) (hg : GoodCfg cfg) {K : Bytes} {db : DB} {sample : List Nat}
    {A0 : List (Option Bytes)} {t t' : Tape} {L : List (Bytes × Bytes)} {edb : PiPtrEDB}
    (h : encDb cfg lv K db sample A0 t = .ok (L, edb.A, t')) (hD : edb.D = buildTable L)
    (hnd : sample.Nodup) (hpos : ∀ p ∈ sample, 0 < p)
    {w : Bytes} {ids : List Bytes} (hm : (w, ids) ∈ db) (hne : ids ≠ []) (hv : C17.ValidIds ids cfg.idSize.toNat)
    (hn : (L.map (·.1)).Nodup) :
    ∃ tk, token cfg lv K w = .ok tk ∧ search cfg lv edb tk = .ok ids := by
  obtain ⟨avail', recs, f, rfl, wr, _⟩ := encDb_inv cfg lv h
  obtain ⟨r, hr, k⟩ := f.of_mem_left hm
  have hget : edb.D.get r.entry.1 = some r.entry.2 := by
    rw [hD]
    exact buildTable_get_of_mem _ _ _ hn (List.mem_map_of_mem hr)
  have hsits : Case cfg (Sits cfg lv r.K2 edb.A) ids r.mark r.content r.cells := by
    refine k.layout.imp fun m blocks pds' ptrs hsub l => ?_
    have hin : ∀ pd ∈ pds', pd ∈ recs.flatMap Kw.cells := fun pd hpd =>
      List.mem_flatMap.mpr ⟨_, hr, hsub pd hpd⟩
    have hdec : Forall₂ (fun blk pd => cfg.ske.decrypt lv.D r.K2 pd.2 = .ok (m :: blk)) blocks pds' :=
      l.enc.imp fun _ _ x => x.dec hde
    have hcells : ∀ pd ∈ pds', edb.A[pd.1]? = some (some pd.2) := fun pd hpd => wr.holds hnd (hin pd hpd)
    have hvalid : C17.ValidIds ptrs cfg.idxSize.toNat := by
      intro p hp
      obtain ⟨pd, hpd, h⟩ := l.ptr.of_mem_right hp
      obtain ⟨_, hlen, hnz⟩ := ptr_valid_int (Int.le_of_lt hg.idx) h
      exact ⟨hlen, hnz (hpos _ (wr.slot_mem_avail (hin pd hpd)))⟩
    exact { placed := placed_of cfg lv hdec l.ptr hcells, valid := hvalid }
  refine ⟨(r.K1, r.K2), k.token, ?_⟩
  simp only [search, k.label, ok_bind, hget, Option.isNone_some]
  exact levelLoop_case cfg lv hg _ hget hv hne (k.value.dec hde) hsits

structure Parsed (raw : RawCfg) (out : Int) : Prop where
  positive : checkParamPositive raw = .ok ()
  exist : checkParamExist
    ["param_lambda", "param_B", "param_b", "param_B_prime", "param_b_prime", "prf_f_output_length",
     "param_identifier_size", "prf_f", "ske"] raw = .ok ()
  getLambda : getInt raw "param_lambda" = .ok cfg.lambda
  getB : getInt raw "param_B" = .ok cfg.B
  getb : getInt raw "param_b" = .ok cfg.b
  getBp : getInt raw "param_B_prime" = .ok cfg.Bp
  getbp : getInt raw "param_b_prime" = .ok cfg.bp
  getOut : getInt raw "prf_f_output_length" = .ok out
  getIdSize : getInt raw "param_identifier_size" = .ok cfg.idSize
  sameWidth : Int.fdiv (cfg.b * cfg.idSize) cfg.bp = Int.fdiv (cfg.B * cfg.idSize) cfg.Bp
  idxSize : cfg.idxSize = Int.fdiv (cfg.B * cfg.idSize) cfg.Bp
  ske : AESxCBC.new cfg.lambda = .ok cfg.ske
  prfF : cfg.prfF = HmacPRF.new out cfg.lambda LENGTH_UNLIMITED 20

variable {cfg} in
theorem cfgBuild_inv {raw : RawCfg} (h : Pi2Lev.cfgBuild raw = .ok cfg) : ∃ out, Parsed cfg raw out := by
  simp only [Pi2Lev.cfgBuild, ok_inv] at h
  obtain ⟨_, hpos, _, hex, lam, hlam, B, hB, b, hb, Bp, hBp, bp, hbp, out, hout, ids, hids, _, hq, _, _, ske, hske,
    h⟩ := h
  subst h
  exact ⟨out,
    { positive := hpos, exist := hex, getLambda := hlam, getB := hB, getb := hb, getBp := hBp, getbp := hbp,
      getOut := hout, getIdSize := hids, sameWidth := Decidable.not_not.mp hq, idxSize := rfl, ske := hske,
      prfF := rfl }⟩

variable {cfg} in
theorem cfgBuild_accepted {raw : RawCfg} (h : Pi2Lev.cfgBuild raw = .ok cfg) (hidx : 0 < cfg.idxSize) :
    GoodCfg cfg ∧ PlainSke cfg.ske := by
  obtain ⟨out, p⟩ := cfgBuild_inv h
  have pos := fun f z => param_pos _ raw f z p.positive p.exist
  have pB := pos "param_B" cfg.B (by decide +kernel) (by simp) p.getB
  have pb := pos "param_b" cfg.b (by decide +kernel) (by simp) p.getb
  have pBp := pos "param_B_prime" cfg.Bp (by decide +kernel) (by simp) p.getBp
  have pbp := pos "param_b_prime" cfg.bp (by decide +kernel) (by simp) p.getbp
  have pid := pos "param_identifier_size" cfg.idSize (by decide +kernel) (by simp) p.getIdSize
  have hidx2 : (cfg.B * cfg.idSize).toNat / cfg.Bp.toNat = cfg.idxSize.toNat := by
    rw [p.idxSize]
    exact (fdiv_toNat (cfg.B * cfg.idSize) cfg.Bp (Int.le_of_lt (Int.mul_pos pB pid)) pBp).symm
  have hidx1 : (cfg.b * cfg.idSize).toNat / cfg.bp.toNat = cfg.idxSize.toNat := by
    rw [p.idxSize, ← p.sameWidth]
    exact (fdiv_toNat (cfg.b * cfg.idSize) cfg.bp (Int.le_of_lt (Int.mul_pos pb pid)) pbp).symm
  have hg : GoodCfg cfg :=
    { B := pB, b := pb, Bp := pBp, bp := pbp, ids := pid, idx := hidx, idx1 := hidx1, idx2 := hidx2 }
  exact ⟨hg, (new_plain _ _ p.ske).1⟩

end SSEPy.Sch.Pi2Lev
