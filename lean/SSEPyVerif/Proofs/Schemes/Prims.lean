/-
  What the scheme proofs use of the primitives, from the theorems of C14–C17 and, where those do not say it (which key and
  message lengths `encrypt` and the PRF accept, the `Int` wrappers of the block packer and parsers), from the characterisations
  of `Proofs/Cbc`, `Proofs/PHash` and `Proofs/Bytes`.  What stays assumed is `LeafLaws`.  It has no field for `lv.sha`: the
  DP17 theorems that need the digest length of `hash_h` carry it as a hypothesis of their own (`hsha`).
-/
import SSEPyVerif.Model.Schemes.Common
import SSEPyVerif.Props.C14
import SSEPyVerif.Props.C16
import SSEPyVerif.Props.C17
import SSEPyVerif.Proofs.Basic
import SSEPyVerif.Proofs.Except
import SSEPyVerif.Proofs.Bytes
namespace SSEPy.Sch

/-- what is assumed of the leaves and not proved: on 16-byte blocks AES decryption (`lv.D`) undoes encryption (`lv.E`) and
    `lv.E` returns 16 bytes; HMAC-SHA1 (`lv.hmac`) digests have 20 bytes -/
structure LeafLaws (lv : Leaves) : Prop where
  dec_enc : ∀ key x : Bytes, x.length = 16 → lv.D key (lv.E key x) = x
  enc_len : ∀ key x : Bytes, x.length = 16 → (lv.E key x).length = 16
  hmac_len : ∀ k m, (lv.hmac k m).length = 20

/-- the one field of `LeafLaws` that the PRF and PRP lemmas need: `hl.hmac_len` is a proof of it -/
def HmacLen (lv : Leaves) : Prop := ∀ k m, (lv.hmac k m).length = 20

/-- what was encrypted with a 16-byte IV decrypts to itself; `LeafLaws.decrypts` proves it for a `PlainSke` -/
def Decrypts (ske : AESxCBC) (lv : Leaves) : Prop :=
  ∀ key iv msg c, iv.length = 16 → ske.encrypt lv.E key iv msg = .ok c → ske.decrypt lv.D key c = .ok msg

/-- the one field of `LeafLaws` that ciphertext lengths (`Enc.length`) need: `hl.enc_len` is a proof of it -/
def BlockLen (lv : Leaves) : Prop := ∀ key x : Bytes, x.length = 16 → (lv.E key x).length = 16

/-- an `AESxCBC` object built as the scheme configurations build it: only `key_length` is given -/
def PlainSke (s : AESxCBC) : Prop := s.cipherLength = -1 ∧ s.messageLength = -1

theorem new_plain (kl : Int) (s : AESxCBC) (h : AESxCBC.new kl = .ok s) : PlainSke s ∧ s.keyLength = kl := by
  unfold AESxCBC.new at h
  split at h
  · cases h
  · split at h
    · cases h
    · cases h; exact ⟨⟨rfl, rfl⟩, rfl⟩

theorem new_keyLength (kl : Int) (s : AESxCBC) (h : AESxCBC.new kl = .ok s) : kl = 16 ∨ kl = 24 ∨ kl = 32 := by
  unfold AESxCBC.new at h
  split at h
  · cases h
  · rename_i hk
    simp at hk
    omega

theorem LeafLaws.decrypts {lv : Leaves} (hl : LeafLaws lv) {s : AESxCBC} (hs : PlainSke s) : Decrypts s lv := by
  intro key iv msg c hiv h
  have hk := (AESxCBC.encrypt_eq_ok.mp h).2.1
  obtain ⟨c', h1, h2⟩ := C14.dec_enc s lv.E lv.D key iv msg (hl.dec_enc key) (hl.enc_len key) hiv
    ⟨hk, Or.inl hs.2⟩ (Or.inl hs.1)
  rw [h] at h1
  cases h1
  exact h2

theorem encrypt_returns {ske : AESxCBC} (hp : PlainSke ske) (E : BlockFn) {key : Bytes} (hk : (key.length : Int) = ske.keyLength)
    {iv msg : Bytes} : ∃ c, ske.encrypt E key iv msg = .ok c :=
  ⟨_, AESxCBC.encrypt_eq_ok.mpr ⟨Or.inl hp.2, hk, rfl⟩⟩

theorem prf_key {p : HmacPRF} {hmac : Hmac} {key msg out : Bytes} (h : p.call hmac key msg = .ok out) :
    p.keyLength = -1 ∨ (key.length : Int) = p.keyLength :=
  (HmacPRF.call_eq_ok.mp h).1

theorem HmacPRF.new_out_ne {o k m : Int} {hl : Nat} (h : o ≠ 0) : (HmacPRF.new o k m hl).outputLength = o := by
  simp [HmacPRF.new, LENGTH_NOT_GIVEN, h]

theorem HmacPRF.new_out {o k m : Int} {hl : Nat} (h : 0 < o) : (HmacPRF.new o k m hl).outputLength = o :=
  HmacPRF.new_out_ne (by omega)

/-- an `output_length` that is not given (`0`) stands for the digest size -/
theorem HmacPRF.new_out_zero {k m : Int} {hl : Nat} : (HmacPRF.new 0 k m hl).outputLength = hl := by
  simp [HmacPRF.new, LENGTH_NOT_GIVEN]

theorem prf_len {p : HmacPRF} {lv : Leaves} (hH : HmacLen lv) (hh : p.hashLen = 20) {key msg out : Bytes}
    (h : p.call lv.hmac key msg = .ok out) : out.length = p.outputLength.toNat := by
  obtain ⟨_, _, rfl⟩ := HmacPRF.call_eq_ok.mp h
  by_cases hpos : p.outputLength ≤ 0
  · -- the P-hash of a non-positive length is `[]`, and `toNat` of that length is 0
    simp [tlsPHash, hpos]
    omega
  · have hlen : ∀ k m, (lv.hmac k m).length = p.hashLen := by
      rw [hh]
      exact hH
    have hpos20 : 0 < p.hashLen := by
      rw [hh]
      decide
    have hout : ((p.outputLength.toNat : Nat) : Int) = p.outputLength := by omega
    have := C16.phash_len lv.hmac p.hashLen hlen hpos20 key msg p.outputLength.toNat
    rwa [hout] at this

/-- `_Trap` of PiBas, PiPack, PiPtr, Pi2Lev (the same three lines in four files of the source): two outputs of one PRF.
    Stated on the body that `Chain.token`, `PiPtr.token` and `Pi2Lev.token` all unfold to, so that it applies to a
    hypothesis about any of the three. -/
theorem token_inv {F : HmacPRF} {lv : Leaves} (hH : HmacLen lv) (hh : F.hashLen = 20) {K a b K1 K2 : Bytes}
    (h : (do let K1 ← F.call lv.hmac K a; let K2 ← F.call lv.hmac K b; pure (K1, K2) : Except Err _) = .ok (K1, K2)) :
    K1.length = F.outputLength.toNat ∧ K2.length = F.outputLength.toNat := by
  simp only [ok_inv] at h
  obtain ⟨_, h1, _, h2, h⟩ := h
  cases h
  exact ⟨prf_len hH hh h1, prf_len hH hh h2⟩

theorem prf_accepts {p : HmacPRF} (hmac : Hmac) {key msg : Bytes} (hk : p.keyLength = -1 ∨ (key.length : Int) = p.keyLength)
    (hm : p.messageLength = -1 ∨ (msg.length : Int) = p.messageLength) : ∃ out, p.call hmac key msg = .ok out :=
  ⟨_, HmacPRF.call_eq_ok.mpr ⟨hk, hm, rfl⟩⟩

theorem prf_returns {p : HmacPRF} {lv : Leaves} (hH : HmacLen lv) (hh : p.hashLen = 20) {key msg : Bytes}
    (hk : p.keyLength = -1 ∨ (key.length : Int) = p.keyLength) (hm : p.messageLength = -1 ∨ (msg.length : Int) = p.messageLength) :
    ∃ out, p.call lv.hmac key msg = .ok out ∧ out.length = p.outputLength.toNat := by
  obtain ⟨out, hc⟩ := prf_accepts lv.hmac hk hm
  exact ⟨out, hc, prf_len hH hh hc⟩

/-- the PRF's outputs serve as its own keys and as the cipher's keys: all three lengths are `lam`, which is positive; the PRF
    (HMAC-SHA1, 20-byte digests) takes messages of any length, and so does the cipher (`plain`) -/
structure KeysFit (prfF : HmacPRF) (ske : AESxCBC) (lam : Int) : Prop where
  plain : PlainSke ske
  skeKey : ske.keyLength = lam
  fKey : prfF.keyLength = lam
  fMsg : prfF.messageLength = LENGTH_UNLIMITED
  fOut : prfF.outputLength = lam
  fHash : prfF.hashLen = 20
  lpos : 0 < lam

/-- `prf_f` and `ske` as the builder of DP17 makes them, and those of the four CJJ14 schemes when `prf_f_output_length =
    param_lambda` (they pass `prf_f_output_length` as the first argument): the keys fit -/
theorem keysFit_of_new {lam : Int} {ske : AESxCBC} {prfF : HmacPRF} (h : AESxCBC.new lam = .ok ske)
    (hF : prfF = HmacPRF.new lam lam LENGTH_UNLIMITED 20) : KeysFit prfF ske lam := by
  subst hF
  have hk := new_keyLength lam ske h
  have hp := new_plain lam ske h
  have hlam : 0 < lam := by omega
  -- `HmacPRF.new` stores key length, message length and digest size as given: the three `rfl`
  exact
    { plain := hp.1
      skeKey := hp.2
      fKey := rfl
      fMsg := rfl
      fOut := HmacPRF.new_out hlam
      fHash := rfl
      lpos := hlam }

theorem KeysFit.prf_call {prfF : HmacPRF} {ske : AESxCBC} {lam : Int} (hf : KeysFit prfF ske lam) {lv : Leaves}
    (hH : HmacLen lv) (key msg : Bytes) (hk : (key.length : Int) = lam) :
    ∃ out, prfF.call lv.hmac key msg = .ok out ∧ (out.length : Int) = lam := by
  obtain ⟨out, h1, h2⟩ := prf_returns hH hf.fHash (Or.inr (hk.trans hf.fKey.symm)) (Or.inl hf.fMsg)
  have := hf.lpos
  exact ⟨out, h1, by rw [h2, hf.fOut]; omega⟩

theorem KeysFit.token_returns {prfF : HmacPRF} {ske : AESxCBC} {lam : Int} (hf : KeysFit prfF ske lam) {lv : Leaves}
    (hH : HmacLen lv) (K a b : Bytes) (hK : (K.length : Int) = lam) :
    ∃ K1 K2, (do let K1 ← prfF.call lv.hmac K a; let K2 ← prfF.call lv.hmac K b; pure (K1, K2) : Except Err _) = .ok (K1, K2) ∧
      (K1.length : Int) = lam ∧ (K2.length : Int) = lam := by
  obtain ⟨K1, h1, l1⟩ := hf.prf_call hH K a hK
  obtain ⟨K2, h2, l2⟩ := hf.prf_call hH K b hK
  exact ⟨K1, K2, by rw [h1, h2]; rfl, l1, l2⟩

theorem bytesXor_inv {a b c : Bytes} (h : bytesXor a b = .ok c) : c.length = a.length ∧ bytesXor c b = .ok a := by
  obtain ⟨c', hc, hl, hx⟩ := C17.xor_involution a b (bytesXor_eq_ok.mp h).1
  rw [h] at hc
  cases hc
  exact ⟨hl, hx⟩

theorem flatten_inj_of_lengths : ∀ (a b : List Bytes), a.flatten = b.flatten → a.map (·.length) = b.map (·.length) → a = b
  | [], [], _, _ => rfl
  | [], _ :: _, _, h => by simp at h
  | _ :: _, [], _, h => by simp at h
  | x :: xs, y :: ys, hf, hl => by
    simp only [List.map_cons, List.cons.injEq] at hl
    simp only [List.flatten_cons] at hf
    have hxy : x = y := by
      have := congrArg (List.take x.length) hf
      rw [List.take_left] at this
      rw [hl.1, List.take_left] at this
      exact this
    subst hxy
    have := List.append_cancel_left hf
    rw [flatten_inj_of_lengths xs ys this hl.2]

theorem split_flatten (widths : List Nat) (parts : List Bytes) (h : parts.map (·.length) = widths) :
    splitBytes parts.flatten widths = .ok parts := by
  have hlen : parts.flatten.length = widths.sum := by rw [← h, List.length_flatten]
  obtain ⟨ps, hps, hl⟩ := C17.split_lengths parts.flatten widths hlen
  have hf := C17.split_concat parts.flatten widths ps hps
  rw [hps, flatten_inj_of_lengths ps parts hf (by rw [hl, h])]

theorem splitBytes_lens {x : Bytes} {lens : List Nat} {pieces : List Bytes} (h : splitBytes x lens = .ok pieces) :
    pieces.map List.length = lens := by
  by_cases hl : x.length = lens.sum
  · obtain ⟨ps, hps, hlen⟩ := C17.split_lengths x lens hl
    rw [hps] at h
    cases h
    exact hlen
  · rw [C17.split_mismatch_raises x lens hl] at h; cases h

/-- the four clauses of C03's `wire_is_source` that are not `rfl`, for the four CJJ14 schemes: `structures.py` cuts a key at
    `[λ]` and a token at `[λ, 2λ - λ]`; these are the widths of the wire model, and they sum to the lengths it checks, `λ` and `2λ` -/
theorem lambda_layout (lam : Int) :
    [lam].map Int.toNat = [lam.toNat] ∧ [lam, 2 * lam - lam].map Int.toNat = [lam.toNat, lam.toNat] ∧
    lam = [lam].sum ∧ 2 * lam = [lam, 2 * lam - lam].sum := by
  rw [show 2 * lam - lam = lam by omega]
  refine ⟨rfl, rfl, ?_, ?_⟩
  · show lam = lam + 0
    omega
  · show 2 * lam = lam + (lam + 0)
    omega

/-- the property's keyword validity: non-empty, no leading NUL byte -/
def NoLeadingNul (w : Bytes) : Prop := ∃ x xs, w = x :: xs ∧ x ≠ 0

theorem le_fromBE_cons {x : UInt8} (hx : x ≠ 0) (xs : Bytes) : 256 ^ xs.length ≤ fromBE (x :: xs) := by
  have hpos : 1 ≤ x.toNat := Nat.pos_of_ne_zero fun h0 => hx (UInt8.toNat_inj.mp (by simpa using h0))
  rw [fromBE_cons]
  exact Nat.le_trans (Nat.le_mul_of_pos_left _ hpos) (Nat.le_add_right _ _)

theorem fromBE_inj (a b : Bytes) (ha : NoLeadingNul a) (hb : NoLeadingNul b) (h : fromBE a = fromBE b) : a = b := by
  obtain ⟨x, xs, rfl, hx⟩ := ha
  obtain ⟨y, ys, rfl, hy⟩ := hb
  -- the value fixes the length: `256^(n-1) ≤ value < 256^n`
  have lt : ∀ {x y : UInt8} {xs ys : Bytes}, y ≠ 0 → fromBE (x :: xs) = fromBE (y :: ys) →
      ¬ xs.length < ys.length := by
    intro x y xs ys hy h hlt
    have h1 := fromBE_lt (x :: xs)
    have h2 := le_fromBE_cons hy ys
    have : 256 ^ (x :: xs).length ≤ 256 ^ ys.length := Nat.pow_le_pow_right (by decide) hlt
    omega
  have hlen : xs.length = ys.length :=
    Nat.le_antisymm (Nat.le_of_not_lt (lt hx h.symm)) (Nat.le_of_not_lt (lt hy h))
  exact fromBE_inj_same_len (by simp [hlen]) h

theorem mapE_cons_eq_ok {α β : Type} {f : α → Except Err β} {a : α} {as : List α} {bs : List β} :
    mapE f (a :: as) = .ok bs ↔ ∃ b, f a = .ok b ∧ ∃ bs', mapE f as = .ok bs' ∧ b :: bs' = bs := by
  simp only [mapE, ok_inv]

theorem mapE_total {α β : Type} (f : α → Except Err β) (g : α → β) (hf : ∀ a, f a = .ok (g a)) (l : List α) :
    mapE f l = .ok (l.map g) := by
  induction l with
  | nil => rfl
  | cons a as ih => simp [mapE, ih, hf, ok_bind, pure_eq]

theorem mapE_congr {α β : Type} {f g : α → Except Err β} (l : List α) (h : ∀ a ∈ l, f a = g a) : mapE f l = mapE g l := by
  induction l with
  | nil => rfl
  | cons a as ih => simp only [mapE, h a List.mem_cons_self, ih fun b hb => h b (List.mem_cons_of_mem _ hb)]

theorem intToBytes_natCast (x w : Nat) : intToBytes (x : Int) (w : Int) = intToBytesNat x w :=
  (C17.int_wrapper_agrees x w).1

theorem partitionBlocks_nat (ids : List Bytes) {cap sz bs : Int} (h1 : 0 ≤ cap) (h2 : 0 ≤ sz) (h3 : 0 ≤ bs) :
    partitionBlocks ids cap sz bs = partitionBlocksNat ids cap.toNat sz.toNat bs.toNat := by
  unfold partitionBlocks
  rw [if_pos ⟨h1, h2, h3⟩]

theorem partitionBlocks_inv {ids blocks : List Bytes} {cap sz bs : Int} (h : partitionBlocks ids cap sz bs = .ok blocks)
    (hcap : 0 < cap) (hsz : 0 ≤ sz) (hbs : 0 ≤ bs) :
    blocks.length = ceilDiv ids.length cap.toNat ∧
    ((∀ id ∈ ids, id.length = sz.toNat) → ∀ b ∈ blocks, b.length = C17.effBs cap.toNat sz.toNat bs.toNat) := by
  rw [partitionBlocks_nat ids (Int.le_of_lt hcap) hsz hbs] at h
  have hc : 0 < cap.toNat := by omega
  exact ⟨C17.partition_count ids _ _ _ hc blocks h, fun hv => C17.partition_block_len ids _ _ _ hc hv blocks h⟩

theorem partitionBlocks_inv_default {ids blocks : List Bytes} {cap sz : Int} (h : partitionBlocks ids cap sz = .ok blocks)
    (hcap : 0 < cap) (hsz : 0 ≤ sz) :
    blocks.length = ceilDiv ids.length cap.toNat ∧
    ((∀ id ∈ ids, id.length = sz.toNat) → ∀ b ∈ blocks, b.length = cap.toNat * sz.toNat) :=
  -- `C17.effBs cap sz 0` evaluates to the default block size `cap * sz`
  partitionBlocks_inv h hcap hsz (Int.le_refl 0)

theorem partitionBlocks_ne_nil {ids blocks : List Bytes} {cap sz bs : Int} (h : partitionBlocks ids cap sz bs = .ok blocks)
    (hcap : 0 < cap) (hsz : 0 ≤ sz) (hbs : 0 ≤ bs) (hne : ids ≠ []) : blocks ≠ [] := by
  intro e
  have hc := (partitionBlocks_inv h hcap hsz hbs).1
  rw [e, ceilDiv_step (List.length_pos_iff.mpr hne) (by omega : 0 < cap.toNat)] at hc
  exact Nat.succ_ne_zero _ hc.symm

/-- `hbs` is the packer's condition on the block size: `0` selects the default `cap·sz` -/
theorem blockSize_toNat {cap sz bs : Int} (hcap : 0 ≤ cap) (hsz : 0 ≤ sz) (hbs : bs = 0 ∨ cap * sz ≤ bs) :
    0 ≤ bs ∧ (bs.toNat = 0 ∨ cap.toNat * sz.toNat ≤ bs.toNat) := by
  have hcs : 0 ≤ cap * sz := Int.mul_nonneg hcap hsz
  have : ((cap.toNat * sz.toNat : Nat) : Int) = cap * sz := by
    rw [Int.natCast_mul, Int.toNat_of_nonneg hcap, Int.toNat_of_nonneg hsz]
  omega

theorem partitionBlocks_returns (ids : List Bytes) {cap sz bs : Int} (hcap : 0 < cap) (hsz : 0 ≤ sz) (hbs : bs = 0 ∨ cap * sz ≤ bs) :
    ∃ blocks, partitionBlocks ids cap sz bs = .ok blocks := by
  obtain ⟨hb0, hbn⟩ := blockSize_toNat (Int.le_of_lt hcap) hsz hbs
  rw [partitionBlocks_nat ids (Int.le_of_lt hcap) hsz hb0]
  refine ⟨_, partitionBlocksNat_eq_ok.mpr ⟨?_, by omega, rfl⟩⟩
  split
  · exact Nat.le_refl _
  · exact hbn.resolve_left ‹_›

theorem blocks_roundtrip {ids : List Bytes} {cap sz : Int} (hcap : 0 < cap) (hsz : 0 < sz)
    (hv : C17.ValidIds ids sz.toNat) {blocks : List Bytes} (hb : partitionBlocks ids cap sz = .ok blocks) :
    ∃ parts, mapE (fun b => parseBySize b sz) blocks = .ok parts ∧ parts.flatten = ids := by
  obtain ⟨blocks', hb1, hb2, hb3⟩ :=
    C17.parse_partition ids cap.toNat sz.toNat 0 (by omega) (by omega) (Or.inl rfl) hv
  rw [partitionBlocks_nat ids (Int.le_of_lt hcap) (Int.le_of_lt hsz) (Int.le_refl 0), Int.toNat_zero, hb1] at hb
  cases hb
  refine ⟨blocks.map fun b => parseLoop b.length b sz.toNat, mapE_total _ _ (fun b => ?_) blocks, ?_⟩
  · simp only [parseBySize, if_neg (Int.not_lt.mpr (Int.le_of_lt hsz)), hb2 b]
  · rw [← hb3, List.flatMap_def]

theorem parseByCount_eq {b : Bytes} {cap : Int} (hcap : 0 < cap) {sz : Nat} (hdiv : b.length / cap.toNat = sz) :
    parseByCount b cap = parseBySizeNat b sz := by
  have e := (C17.wrappers_agree [] b cap.toNat 0 0).2.2
  rw [Int.toNat_of_nonneg (Int.le_of_lt hcap)] at e
  rw [e, C17.parse_by_count b cap.toNat sz (Int.lt_toNat.mpr hcap) hdiv]

/-- `hdiv`: a block divides into `cap` entries of `sz` bytes (`bs // cap = sz`), which the configuration builder of Pi2Lev
    enforces for its pointer blocks; without it parsing by entry count cuts at the wrong places -/
theorem blocks_roundtrip_count {ids : List Bytes} {cap sz bs : Int} (hcap : 0 < cap) (hsz : 0 < sz) (hbs : bs = 0 ∨ cap * sz ≤ bs)
    (hdiv : C17.effBs cap.toNat sz.toNat bs.toNat / cap.toNat = sz.toNat) (hv : C17.ValidIds ids sz.toNat) {blocks : List Bytes}
    (hb : partitionBlocks ids cap sz bs = .ok blocks) :
    ∃ parts, mapE (fun b => parseByCount b cap) blocks = .ok parts ∧ parts.flatten = ids := by
  obtain ⟨hb0, hbsn⟩ := blockSize_toNat (Int.le_of_lt hcap) (Int.le_of_lt hsz) hbs
  have hlen := (partitionBlocks_inv hb hcap (Int.le_of_lt hsz) hb0).2 fun id hid => (hv id hid).1
  obtain ⟨blocks', hb1, hb2, hb3⟩ :=
    C17.parse_partition ids cap.toNat sz.toNat bs.toNat (by omega) (by omega) hbsn hv
  rw [partitionBlocks_nat ids (Int.le_of_lt hcap) (Int.le_of_lt hsz) hb0, hb1] at hb
  cases hb
  refine ⟨blocks.map fun b => parseLoop b.length b sz.toNat, ?_, by rw [← hb3, List.flatMap_def]⟩
  have hcount : ∀ b ∈ blocks, parseByCount b cap = parseBySizeNat b sz.toNat := fun b hbm =>
    parseByCount_eq hcap (hlen b hbm ▸ hdiv)
  rw [mapE_congr blocks hcount]
  exact mapE_total _ _ hb2 blocks

end SSEPy.Sch
