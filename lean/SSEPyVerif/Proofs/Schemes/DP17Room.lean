/-
  DP17: there is always room.  While at most N postings are stored on a level, some bucket has at least 2^i free cells
  (`room_exists`), so `random.choice` of the buckets with enough room never sees an empty list (`cands_nonempty`).  And
  the level search returns the first level that fits (`findAdjacent_returns`).
-/
import SSEPyVerif.Proofs.Schemes.DP17
namespace SSEPy.Sch.DP17
open SSEPy.Sch

theorem divide_sum (bs size : Nat) : ∀ m, ((List.range m).map fun j => min bs (size - j * bs)).sum = min size (m * bs)
  | 0 => by simp
  | m + 1 => by
    rw [List.range_succ, List.map_append, List.sum_append, divide_sum bs size m, Nat.succ_mul]
    simp only [List.map_cons, List.map_nil, List.sum_cons, List.sum_nil, Nat.add_zero]
    rcases Nat.le_total size (m * bs) with h | h
    · rw [Nat.min_eq_left h, Nat.sub_eq_zero_of_le h, Nat.min_eq_left (Nat.le_add_right_of_le h), Nat.min_zero,
        Nat.add_zero]
    · rw [Nat.min_eq_right h, ← Nat.add_min_add_left, Nat.add_sub_cancel' h, Nat.min_comm]

theorem sizesOf_sum (N : Nat) (i : Int) :
    (sizesOf N i).sum = 2 * N + 2 ^ (i + 1).toNat ∧
    (sizesOf N i).length = ceilDiv (2 * N + 2 ^ (i + 1).toNat) (2 ^ (i + 1).toNat) := by
  generalize hbsd : 2 ^ (i + 1).toNat = bs
  have hbs : 0 < bs := hbsd ▸ Nat.two_pow_pos _
  have := divide_sum bs (2 * N + bs) (ceilDiv (2 * N + bs) bs)
  rw [Nat.min_eq_left (le_ceilDiv_mul _ bs hbs)] at this
  unfold sizesOf divideToBuckets
  simp only [hbsd, List.map_map, List.length_map, List.length_range, and_true]
  exact this

/-- the counting argument.  With `h = 2^i`, level `i` has `m = ⌈(2N + 2h) / 2h⌉` buckets and `2N + 2h` cells, at most `N` of
    them taken.  If every bucket had fewer than `h` free cells, the free cells would satisfy
    `2·free ≤ 2·(m·h − m) ≤ m·2h < 2N + 4h ≤ 2·(2N + 2h − N) ≤ 2·free` (the strict step: `m` is a ceiling) -/
theorem room_exists (N i : Nat) (rem : List Nat) (stored : Nat)
    (hlen : rem.length = ceilDiv (2 * N + 2 ^ (i + 1)) (2 ^ (i + 1)))
    (hsum : rem.sum + stored = 2 * N + 2 ^ (i + 1)) (hst : stored ≤ N) : ∃ r ∈ rem, 2 ^ i ≤ r := by
  apply Classical.byContradiction
  intro hno
  have hall : ∀ r ∈ rem, r < 2 ^ i := fun r hr => Nat.lt_of_not_le fun h => hno ⟨r, hr, h⟩
  have hh : 0 < 2 ^ i := Nat.two_pow_pos i
  have hp : 2 ^ (i + 1) = 2 * 2 ^ i := by rw [Nat.pow_succ, Nat.mul_comm]
  rw [hp] at hsum hlen
  have hfew : rem.sum + rem.length ≤ rem.length * 2 ^ i := sum_add_length_le rem (2 ^ i) hall
  have hm : rem.length * (2 * 2 ^ i) < 2 * N + 2 * 2 ^ i + 2 * 2 ^ i := by
    rw [hlen]
    exact Nat.lt_of_le_of_lt (Nat.div_mul_le_self _ _) (by omega)
  have hfree : N + 2 * 2 ^ i ≤ rem.sum := by omega
  have hmh : rem.length * (2 * 2 ^ i) = 2 * (rem.length * 2 ^ i) := Nat.mul_left_comm _ _ _
  omega

/-- the postings stored on the level: the `stored` of `room_exists` -/
def storedCount (lvl : Level) : Nat := (lvl.buckets.map List.length).sum

theorem sum_addTo (l : List (List Entry)) (x : Nat) (es : List Entry) (hx : x < l.length) :
    ((addTo l x es).map List.length).sum = (l.map List.length).sum + es.length := by
  unfold addTo
  induction l generalizing x with
  | nil => cases hx
  | cons a rest ih =>
    rw [List.mapIdx_cons]
    cases x with
    | zero =>
      simp only [Nat.add_one_ne_zero, if_false, if_true, mapIdx_id, List.map_cons, List.sum_cons, List.length_append]
      omega
    | succ x' =>
      have := ih x' (Nat.lt_of_succ_lt_succ hx)
      simp only [Nat.zero_ne_add_one, if_false, Nat.add_right_cancel_iff, List.map_cons, List.sum_cons, this]
      omega

theorem sum_of_pointwise : ∀ (ss rs : List Nat) (bs : List (List Entry)), rs.length = ss.length → bs.length = ss.length →
    (∀ (x : Nat) b r s, bs[x]? = some b → rs[x]? = some r → ss[x]? = some s → b.length + r = s) →
    rs.sum + (bs.map List.length).sum = ss.sum
  | [], rs, bs, h1, h2, _ => by rw [List.eq_nil_of_length_eq_zero h1, List.eq_nil_of_length_eq_zero h2]; rfl
  | s :: ss, r :: rs, b :: bs, h1, h2, h3 => by
    have h0 := h3 0 b r s rfl rfl rfl
    have := sum_of_pointwise ss rs bs (Nat.succ.inj h1) (Nat.succ.inj h2) fun x => h3 (x + 1)
    simp only [List.sum_cons, List.map_cons]
    omega
  | _ :: _, [], _, h1, _, _ => nomatch h1
  | _ :: _, _ :: _, [], _, h2, _ => nomatch h2

theorem BInv.sum {sizes : List Nat} {lvl : Level} (h : BInv sizes lvl) : lvl.remaining.sum + storedCount lvl = sizes.sum :=
  sum_of_pointwise sizes lvl.remaining lvl.buckets h.remaining h.buckets h.cells

/-- `placed` bounds the postings on the level from above: it counts those of all keywords so far, whichever level they went
    to, so that one invariant serves every level of the list (`encDb_raises`) -/
structure LInv (N : Nat) (placed : Nat) (lvl : Level) : Prop where
  binv : BInv (sizesOf N lvl.lev) lvl
  count : storedCount lvl ≤ placed

theorem LInv.of_le {N placed placed' : Nat} {lvl : Level} (h : LInv N placed lvl) (hle : placed ≤ placed') :
    LInv N placed' lvl :=
  { binv := h.binv, count := Nat.le_trans h.count hle }

theorem LInv.put {N placed : Nat} {w : Bytes} {lvl : Level} {x i : Nat} {c : List Bytes} (hinv : LInv N placed lvl)
    (hx : x ∈ cands i lvl) (hc : c.length ≤ 2 ^ i) : LInv N (placed + c.length) (put w lvl x c) := by
  have hcount : storedCount (DP17.put w lvl x c) ≤ placed + c.length := by
    rw [storedCount, DP17.put, sum_addTo _ _ _ (cands_lt hinv.binv.wfl hx), List.length_map]
    exact Nat.add_le_add_right hinv.count _
  exact { binv := hinv.binv.put hx hc, count := hcount }

theorem LInv.initLevels {N : Nat} {levels : List Int} {ls : List Level} (h : initLevels N levels [] = .ok ls) :
    ∀ l ∈ ls, LInv N 0 l := by
  intro l hl
  have hzero : ∀ n ∈ l.buckets.map List.length, n = 0 := by
    intro n hn
    obtain ⟨b, hb, rfl⟩ := List.mem_map.mp hn
    rw [initLevels_new h l hl] at hb
    rw [newLevel_empty N l.lev b hb]
    rfl
  exact { binv := BInv.initLevels h l hl, count := Nat.le_of_eq (List.sum_eq_zero_iff_forall_eq_nat.mpr hzero) }

theorem cands_nonempty {N placed : Nat} {lvl : Level} {i : Nat} (hlev : lvl.lev = (i : Int)) (hinv : LInv N placed lvl)
    (hN : placed ≤ N) : cands i lvl ≠ [] := by
  obtain ⟨hb, h4⟩ := hinv
  obtain ⟨s1, s2⟩ := sizesOf_sum N lvl.lev
  have e : (lvl.lev + 1).toNat = i + 1 := by rw [hlev]; omega
  rw [e] at s1 s2
  have hlen : lvl.remaining.length = ceilDiv (2 * N + 2 ^ (i + 1)) (2 ^ (i + 1)) := by rw [hb.remaining, s2]
  have hsum : lvl.remaining.sum + storedCount lvl = 2 * N + 2 ^ (i + 1) := by rw [hb.sum, s1]
  obtain ⟨r, hr, hge⟩ := room_exists N i lvl.remaining (storedCount lvl) hlen hsum (Nat.le_trans h4 hN)
  obtain ⟨x, hx⟩ := List.mem_iff_getElem?.mp hr
  exact List.ne_nil_of_mem (mem_cands.mpr ⟨r, hx, hge⟩)

variable (cfg : DP17Cfg) (lv : Leaves)

theorem LInv.placeChunks {N : Nat} {k1 k2 w : Bytes} {i : Nat} {cw : List (List Bytes)} {count placed : Nat} {lvl : Level}
    {HT : Table} {t : Tape} {lvl' : Level} {HT' : Table} {t' : Tape} (hinv : LInv N placed lvl) (hcl : ∀ c ∈ cw, c.length ≤ 2 ^ i)
    (h : placeChunks cfg lv k1 k2 w i cw count lvl HT t = .ok (lvl', HT', t')) :
    LInv N (placed + (cw.map List.length).sum) lvl' := by
  -- before chunk `k` the count is bounded by `placed` and the lengths of the first `k` chunks
  have h0 : LInv N (placed + ((cw.take 0).map List.length).sum) lvl := by simpa using hinv
  have hstep : ∀ ch : ChunkStep cfg lv k1 k2 w i cw count,
      LInv N (placed + ((cw.take ch.k).map List.length).sum) ch.lvl →
      LInv N (placed + ((cw.take (ch.k + 1)).map List.length).sum) (DP17.put w ch.lvl ch.x ch.c) := by
    intro ch hI
    rw [sum_map_take_succ ch.chunk, ← Nat.add_assoc]
    exact hI.put ch.room (hcl _ (List.mem_of_getElem? ch.chunk))
  have := placeChunks_rule cfg lv (fun k l _ _ => LInv N (placed + ((cw.take k).map List.length).sum) l) h h0 hstep
  rwa [List.take_length] at this

theorem fits_mono {a b : Int} {n : Nat} (hab : a ≤ b) (ha0 : 0 ≤ a) (hL : 0 ≤ cfg.L) (h : fits cfg a n = true) :
    fits cfg b n = true := by
  unfold fits at h ⊢
  have hb0 : 0 ≤ b := by omega
  simp only [ha0, hb0, ge_iff_le, if_true, decide_eq_true_eq] at h ⊢
  have hpow : (2 ^ a.toNat : Nat) ≤ 2 ^ b.toNat := Nat.pow_le_pow_right (by decide) (by omega)
  have : cfg.L * ((2 ^ a.toNat : Nat) : Int) ≤ cfg.L * ((2 ^ b.toNat : Nat) : Int) :=
    Int.mul_le_mul_of_nonneg_left (by exact_mod_cast hpow) hL
  omega

/-- the levels fit exactly from index `f` on; the search keeps `lo ≤ f ≤ hi + 1` and returns level `f` -/
theorem findLoop_returns (levels : List Int) (n f : Nat) (hf : f < levels.length)
    (hp : ∀ (j : Nat) (lev : Int), levels[j]? = some lev → (fits cfg lev n = true ↔ f ≤ j))
    (fuel : Nat) (lo hi : Int) (hlo0 : 0 ≤ lo) (hlo : lo ≤ f) (hhi : (f : Int) - 1 ≤ hi) (hhi2 : hi ≤ levels.length)
    (hfuel : hi + 2 - lo ≤ fuel) : ∃ r, findLoop cfg levels n fuel lo hi = .ok r ∧ levels[f]? = some r := by
  induction fuel generalizing lo hi with
  | zero => omega
  | succ k ih =>
    simp only [findLoop]
    by_cases hle : lo ≤ hi
    · simp only [hle, if_true]
      -- the middle index, a natural number below the length: `mid = length` would need `lo = hi = length`, but `lo ≤ f < length`
      obtain ⟨m, hm⟩ : ∃ m : Nat, (lo + hi) / 2 = m := ⟨((lo + hi) / 2).toNat, by omega⟩
      have hmb : lo ≤ m ∧ (m : Int) ≤ hi ∧ m < levels.length := by omega
      rw [hm, Int.toNat_natCast]
      clear hm
      obtain ⟨lev, hget⟩ : ∃ lev, levels[m]? = some lev := ⟨_, List.getElem?_eq_getElem hmb.2.2⟩
      rw [hget]
      simp only
      by_cases hfm : fits cfg lev n = true
      · have hge : f ≤ m := (hp m lev hget).mp hfm
        simp only [hfm, if_true]
        exact ih lo (m - 1) hlo0 hlo (by omega) (by omega) (by omega)
      · have hlt : ¬ f ≤ m := fun h => hfm ((hp m lev hget).mpr h)
        simp only [hfm, Bool.false_eq_true, if_false]
        exact ih (m + 1) hi (by omega) (by omega) hhi hhi2 (by omega)
    · simp only [hle, if_false]
      have hn : ¬ lo < 0 := by omega
      have : lo.toNat = f := by omega
      simp only [hn, if_false, this, List.getElem?_eq_getElem hf]
      exact ⟨_, rfl, rfl⟩

theorem findAdjacent_returns (levels : List Int) (n : Nat) (hL : 0 ≤ cfg.L)
    (hasc : ∀ (i j : Nat) (a b : Int), i ≤ j → levels[i]? = some a → levels[j]? = some b → a ≤ b)
    (hnn : ∀ a ∈ levels, 0 ≤ a) (hfits : ∃ a ∈ levels, fits cfg a n = true) :
    ∃ i : Nat, findAdjacent cfg levels n = .ok (i : Int) ∧ levels[levels.findIdx fun a => fits cfg a n]? = some (i : Int) := by
  have hflt := List.findIdx_lt_length_of_exists (p := fun a => fits cfg a n) hfits
  have hfp := List.findIdx_getElem (p := fun a => fits cfg a n) (w := hflt)
  -- the levels fit exactly from the first that fits: none before it by the choice of the index, all after it since the
  -- list ascends
  have hp : ∀ (j : Nat) (lev : Int), levels[j]? = some lev →
      (fits cfg lev n = true ↔ (levels.findIdx fun a => fits cfg a n) ≤ j) := by
    intro j lev hj
    obtain ⟨hjl, rfl⟩ := List.getElem?_eq_some_iff.mp hj
    constructor
    · intro hfit
      refine Nat.le_of_not_lt fun hlt => ?_
      have hnot : fits cfg levels[j] n = false := List.not_of_lt_findIdx hlt
      exact Bool.false_ne_true (hnot.symm.trans hfit)
    · intro hge
      have hle := hasc _ j _ _ hge (List.getElem?_eq_getElem hflt) hj
      exact fits_mono cfg hle (hnn _ (List.getElem_mem hflt)) hL hfp
  obtain ⟨r, hr, hget⟩ := findLoop_returns cfg levels n (levels.findIdx fun a => fits cfg a n) hflt hp
    (levels.length + 2) 0 levels.length (by omega) (by omega) (by omega) (by omega) (by omega)
  obtain ⟨i, rfl⟩ := Int.eq_ofNat_of_zero_le (hnn r (List.mem_of_getElem? hget))
  exact ⟨i, hr, hget⟩

end SSEPy.Sch.DP17
