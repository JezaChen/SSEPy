/-
  What the level-table schemes (CT14, ANSS16) share.  A run of `pushAt`s has a closed form (level `p` gets `atLevel es p`) and
  padding is a relation (`Padded`), so the index both `setupLists` return is described once, by `PaddedLevels`, and search,
  shape (C05) and provenance are read off that.
-/
import SSEPyVerif.Proofs.Schemes.Table
import SSEPyVerif.Proofs.Schemes.Tape
import SSEPyVerif.Model.Schemes.Levels
namespace SSEPy.Sch

theorem encAll_inv {ske : AESxCBC} {lv : Leaves} {key : Bytes} {xs cs : List Bytes} {t t' : Tape}
    (h : encAll ske lv key xs t = .ok (cs, t')) : Forall₂ (Enc ske lv t key) xs cs ∧ Suffix t' t := by
  induction xs generalizing t cs with
  | nil => cases h; exact ⟨.nil, .refl _⟩
  | cons x rest ih =>
    simp only [encAll, ok_inv] at h
    obtain ⟨⟨c, t1⟩, hc, ⟨cs', t2⟩, hr, h⟩ := h
    cases h
    obtain ⟨e1, s1⟩ := skeEncrypt_enc hc
    obtain ⟨e2, s2⟩ := ih hr
    exact ⟨.cons e1 (e2.imp fun _ _ e => e.mono s1), s2.trans s1⟩

theorem decAll_of_enc {ske : AESxCBC} {lv : Leaves}
    (hde : Decrypts ske lv)
    {key : Bytes} {xs cs : List Bytes} {t : Tape} (h : Forall₂ (Enc ske lv t key) xs cs) : decAll ske lv key cs = .ok xs := by
  induction h with
  | nil => rfl
  | cons e _ ih => simp only [decAll, e.dec hde, ih, ok_bind, pure_eq]

theorem decAll_take {ske : AESxCBC} {lv : Leaves} {key : Bytes} {cs xs : List Bytes} (n : Nat)
    (h : decAll ske lv key cs = .ok xs) : decAll ske lv key (cs.take n) = .ok (xs.take n) := by
  induction cs generalizing xs n with
  | nil => cases h; simp [decAll]
  | cons c rest ih =>
    simp only [decAll, ok_inv] at h
    obtain ⟨p, hp, ps, hps, rfl⟩ := h
    cases n with
    | zero => rfl
    | succ m => simp only [List.take_succ_cons, decAll, hp, ih m hps, ok_bind, pure_eq]

theorem lens_of_enc {ske : AESxCBC} {lv : Leaves} (hE : BlockLen lv) {key : Bytes} {xs cs : List Bytes} {t : Tape}
    (h : Forall₂ (Enc ske lv t key) xs cs) {sz : Nat} (hsz : ∀ x ∈ xs, x.length = sz) :
    ∀ c ∈ cs, c.length = 16 + 16 * (sz / 16 + 1) := by
  intro c hc
  obtain ⟨x, hx, e⟩ := h.of_mem_right hc
  rw [e.length hE, hsz x hx]

/-- parsing by the count `n` is parsing by the size `|cs.flatten| / n = clen`, which cuts a flatten of `clen`-byte pieces back
    into the pieces; an all-zero piece it takes for padding and stops there: hence `hnz` -/
theorem parse_cipher_block {cs : List Bytes} {n : Nat} (clen : Nat) (hn : 0 < n) (hclen : 0 < clen) (hcount : cs.length = n)
    (hlen : ∀ c ∈ cs, c.length = clen) (hnz : ∀ c ∈ cs, allZero c = false) :
    parseByCount cs.flatten ((n : Nat) : Int) = .ok cs := by
  have hflen : cs.flatten.length = cs.length * clen := flatten_length_of_all clen cs hlen
  have hdiv : cs.flatten.length / ((n : Nat) : Int).toNat = clen := by
    rw [Int.toNat_natCast, hflen, hcount]
    exact Nat.mul_div_cancel_left _ hn
  rw [parseByCount_eq (Int.natCast_pos.mpr hn) hdiv]
  unfold parseBySizeNat
  have : clen ≠ 0 := by omega
  simp only [this, if_false]
  have := parseLoop_flatten_zeros clen hclen cs 0 cs.flatten.length
    (fun c hc => ⟨hlen c hc, hnz c hc⟩) (by simp [zeros])
  simp only [zeros, List.replicate_zero, List.append_nil] at this
  rw [this]

/-- `v` is the concatenation of the encryptions of `xs` under `key`, each with an IV drawn on `t`: the value of a level entry -/
def Block (ske : AESxCBC) (lv : Leaves) (t : Tape) (key : Bytes) (xs : List Bytes) (v : Bytes) : Prop :=
  ∃ cs, Forall₂ (Enc ske lv t key) xs cs ∧ v = cs.flatten

theorem encAll_block {ske : AESxCBC} {lv : Leaves} {key : Bytes} {xs cs : List Bytes} {t t' : Tape}
    (h : encAll ske lv key xs t = .ok (cs, t')) : Block ske lv t key xs cs.flatten ∧ Suffix t' t :=
  ⟨⟨cs, (encAll_inv h).1, rfl⟩, (encAll_inv h).2⟩

namespace Block
variable {ske : AESxCBC} {lv : Leaves} {t t' : Tape} {key : Bytes} {xs : List Bytes} {v : Bytes}

theorem mono (hs : Suffix t' t) (h : Block ske lv t' key xs v) : Block ske lv t key xs v := by
  obtain ⟨cs, h, rfl⟩ := h
  exact ⟨cs, h.imp fun _ _ e => e.mono hs, rfl⟩

variable (hE : BlockLen lv)
include hE

theorem length (h : Block ske lv t key xs v) {sz : Nat} (hsz : ∀ x ∈ xs, x.length = sz) :
    v.length = xs.length * (16 + 16 * (sz / 16 + 1)) := by
  obtain ⟨cs, h, rfl⟩ := h
  rw [← h.length_right]
  exact flatten_length_of_all _ cs (lens_of_enc hE h hsz)

theorem stamped (h : Block ske lv t key xs v) (hne : 0 < xs.length) : Stamped t v := by
  obtain ⟨cs, h, rfl⟩ := h
  cases h with
  | nil => cases hne
  | cons e _ =>
    have hlen := e.length hE
    have hst := e.stamped
    unfold Stamped at hst ⊢
    rwa [List.flatten_cons, List.take_append_of_le_length (by omega)]

theorem read (hde : Decrypts ske lv)
    (h : Block ske lv t key xs v) (hg : GoodTape t) {sz : Nat} (hsz : ∀ x ∈ xs, x.length = sz) (hne : 0 < xs.length) :
    ∃ cs, parseByCount v (xs.length : Int) = .ok cs ∧ decAll ske lv key cs = .ok xs := by
  obtain ⟨cs, h, rfl⟩ := h
  refine ⟨cs, parse_cipher_block (16 + 16 * (sz / 16 + 1)) hne (by omega) h.length_right (lens_of_enc hE h hsz) ?_,
    decAll_of_enc hde h⟩
  intro c hc
  obtain ⟨x, _, e⟩ := h.of_mem_right hc
  exact e.nonzero hg

end Block

theorem pushAt_eq_ok {α : Type} {ls ls' : List (List α)} {j : Nat} {x : α} :
    pushAt ls j x = .ok ls' ↔ ∃ l, ls[j]? = some l ∧ ls' = ls.set j (l ++ [x]) := by
  unfold pushAt
  cases ls[j]? with
  | none => exact ⟨nofun, fun ⟨_, hl, _⟩ => nomatch hl⟩
  | some l =>
    constructor
    · intro h
      cases h
      exact ⟨l, rfl, rfl⟩
    · rintro ⟨_, hl, rfl⟩
      cases hl
      rfl

/-- the entries of `es` addressed to level `p`, in their order -/
def atLevel {α : Type} (es : List (Nat × α)) (p : Nat) : List α := (es.filter (·.1 = p)).map (·.2)

theorem atLevel_nil {α : Type} (p : Nat) : atLevel ([] : List (Nat × α)) p = [] := rfl

theorem atLevel_cons {α : Type} (e : Nat × α) (es : List (Nat × α)) (p : Nat) :
    atLevel (e :: es) p = if e.1 = p then e.2 :: atLevel es p else atLevel es p := by
  unfold atLevel
  by_cases h : e.1 = p <;> simp [h]

theorem atLevel_append {α : Type} (es es' : List (Nat × α)) (p : Nat) : atLevel (es ++ es') p = atLevel es p ++ atLevel es' p := by
  simp [atLevel]

theorem mem_atLevel {α : Type} {es : List (Nat × α)} {p : Nat} {x : α} : x ∈ atLevel es p ↔ (p, x) ∈ es := by
  simp only [atLevel, List.mem_map, List.mem_filter, decide_eq_true_eq]
  constructor
  · rintro ⟨e, ⟨he, rfl⟩, rfl⟩
    exact he
  · intro h
    exact ⟨_, ⟨h, rfl⟩, rfl⟩

/-- `pushAt` for each entry of `es` in turn, at the level the entry names: what the `encDb` loops do to the level lists -/
def pushAll {α : Type} (es : List (Nat × α)) (Ls : List (List α)) : Except Err (List (List α)) :=
  es.foldlM (fun Ls e => pushAt Ls e.1 e.2) Ls

theorem pushAll_cons {α : Type} {e : Nat × α} {es : List (Nat × α)} {Ls Ls' : List (List α)} :
    pushAll (e :: es) Ls = .ok Ls' ↔ ∃ Ls1, pushAt Ls e.1 e.2 = .ok Ls1 ∧ pushAll es Ls1 = .ok Ls' := by
  simp only [pushAll, List.foldlM_cons, ok_inv]

theorem pushAll_append {α : Type} {es es' : List (Nat × α)} {Ls Ls1 Ls' : List (List α)} (h : pushAll es Ls = .ok Ls1)
    (h' : pushAll es' Ls1 = .ok Ls') : pushAll (es ++ es') Ls = .ok Ls' := by
  unfold pushAll at h ⊢
  rw [List.foldlM_append, h]
  exact h'

theorem pushAll_inv {α : Type} {es : List (Nat × α)} {Ls Ls' : List (List α)} (h : pushAll es Ls = .ok Ls') :
    Ls'.length = Ls.length ∧ (∀ e ∈ es, e.1 < Ls.length) ∧ ∀ p L, Ls[p]? = some L → Ls'[p]? = some (L ++ atLevel es p) := by
  induction es generalizing Ls with
  | nil => cases h; exact ⟨rfl, nofun, fun p L hL => by simp [atLevel, hL]⟩
  | cons e es ih =>
    obtain ⟨Ls1, h1, h2⟩ := pushAll_cons.mp h
    obtain ⟨l, hl, rfl⟩ := pushAt_eq_ok.mp h1
    obtain ⟨i1, i2, i3⟩ := ih h2
    have hlt : e.1 < Ls.length := (List.getElem?_eq_some_iff.mp hl).1
    rw [List.length_set] at i1 i2
    refine ⟨i1, fun e' he' => ?_, fun p L hL => ?_⟩
    · rcases List.mem_cons.mp he' with rfl | he'
      · exact hlt
      · exact i2 e' he'
    · rw [atLevel_cons]
      by_cases hp : e.1 = p
      · subst hp
        rw [hl] at hL
        cases hL
        have hset : (Ls.set e.1 (l ++ [e.2]))[e.1]? = some (l ++ [e.2]) := by
          rw [List.getElem?_set_self hlt]
        rw [i3 e.1 (l ++ [e.2]) hset, if_pos rfl, List.append_assoc, List.singleton_append]
      · have hset : (Ls.set e.1 (l ++ [e.2]))[p]? = some L := by
          rw [List.getElem?_set_ne hp]
          exact hL
        rw [i3 p L hset, if_neg hp]

/-- one round of `padLoop` from the state `db, N, t`.  Of the tape it says only that the dummy keyword is drawn at its head and
    that what is left is a `Suffix`: the `randint` draw and the identifier draws stay hidden -/
structure PadStep (idSize cap : Nat) where
  {db : DB} {N : Nat} {t : Tape} {kw : Bytes} {t1 : Tape} {ids : List Bytes} {t' : Tape}
  keyword : takeBytes 32 t = .ok (kw, t1)
  nonempty : 1 ≤ ids.length
  fits : N + ids.length ≤ cap
  lens : ∀ x ∈ ids, x.length = idSize
  suffix : Suffix t' t1

section padLoop
variable {idSize cap fuel : Nat} {db pdb : DB} {N : Nat} {t t' : Tape}

/-- `N'`: the count the loop stops at -/
theorem padLoop_rule (I : DB → Nat → Tape → Prop) (h : padLoop idSize cap fuel db N t = .ok (pdb, t')) (h0 : I db N t)
    (hstep : ∀ s : PadStep idSize cap, I s.db s.N s.t → I (dbInsert s.db s.kw s.ids) (s.N + s.ids.length) s.t') :
    ∃ N', cap ≤ N' ∧ I pdb N' t' := by
  induction fuel generalizing db N t with
  | zero => cases h
  | succ f ih =>
    simp only [padLoop, ok_inv] at h
    rcases h with ⟨hlt, ⟨kw, t1⟩, hkw, ⟨n, t2⟩, hn, hn', ⟨ids, t3⟩, hids, h⟩ | ⟨hge, h⟩
    · dsimp only at hn hn' hids h
      obtain ⟨d1, d2⟩ := takeBytesN_lens hids
      subst d1
      have hlo : 1 ≤ ids.length := Nat.le_of_not_lt fun hc => hn' (.inl hc)
      have hhi : N + ids.length ≤ cap :=
        Nat.add_le_of_le_sub' (Nat.le_of_lt hlt) (Nat.le_of_not_lt fun hc => hn' (.inr hc))
      have hsuf : Suffix t3 t1 := (takeBytesN_suffix hids).trans (takeNat_suffix hn)
      exact ih h (hstep { db := db, keyword := hkw, nonempty := hlo, fits := hhi, lens := d2, suffix := hsuf } h0)
    · cases h
      exact ⟨N, by omega, h0⟩

theorem padLoop_suffix (h : padLoop idSize cap fuel db N t = .ok (pdb, t')) : Suffix t' t := by
  obtain ⟨_, _, hs⟩ := padLoop_rule (fun _ _ u => Suffix u t) h (.refl _) fun s (hI : Suffix s.t t) =>
    (s.suffix.trans (takeBytes_suffix s.keyword)).trans hI
  exact hs

theorem mem_dbInsert {db : DB} {k : Bytes} {v : List Bytes} {p : Bytes × List Bytes} (h : p ∈ dbInsert db k v) :
    p ∈ db ∨ p = (k, v) := by
  induction db with
  | nil => exact Or.inr (List.mem_singleton.mp h)
  | cons q rest ih =>
    simp only [dbInsert] at h
    split at h
    · next hk =>
      rcases List.mem_cons.mp h with rfl | h
      · subst hk
        exact Or.inr rfl
      · exact Or.inl (List.mem_cons_of_mem _ h)
    · rcases List.mem_cons.mp h with rfl | h
      · exact Or.inl List.mem_cons_self
      · exact (ih h).imp_left (List.mem_cons_of_mem _)

theorem padLoop_bounds (h : padLoop idSize cap fuel db N t = .ok (pdb, t')) (hdb : ∀ p ∈ db, 1 ≤ p.2.length)
    (hcap : db.total ≤ cap) : ∀ p ∈ pdb, 1 ≤ p.2.length ∧ p.2.length ≤ cap := by
  have h0 : ∀ p ∈ db, 1 ≤ p.2.length ∧ p.2.length ≤ cap := fun p hp =>
    ⟨hdb p hp, Nat.le_trans (DB.length_le_total hp) hcap⟩
  let I (db : DB) (_ : Nat) (_ : Tape) : Prop := ∀ p ∈ db, 1 ≤ p.2.length ∧ p.2.length ≤ cap
  obtain ⟨_, _, hI⟩ := padLoop_rule I h h0 fun s (hI : I s.db s.N s.t) p hp => by
    rcases mem_dbInsert hp with hold | rfl
    · exact hI p hold
    · exact ⟨s.nonempty, Nat.le_trans (Nat.le_add_left _ _) s.fits⟩
  exact hI

theorem dbInsert_fresh {db : DB} {k : Bytes} (v : List Bytes) (h : k ∉ db.map (·.1)) : dbInsert db k v = db ++ [(k, v)] := by
  induction db with
  | nil => rfl
  | cons p rest ih =>
    obtain ⟨k', v'⟩ := p
    simp only [List.map_cons, List.mem_cons, not_or] at h
    have : ¬ k' = k := fun e => h.1 e.symm
    simp [dbInsert, this, ih h.2]

theorem draws32_eq : draws32 = drawsLen 32 := rfl

/-- `hfresh`: a dummy keyword that repeats a keyword already there would replace that keyword's list, and postings be lost -/
theorem padLoop_total (h : padLoop idSize cap fuel db N t = .ok (pdb, t')) (hN : db.total = N) (hle : N ≤ cap)
    (hfresh : (db.map (·.1) ++ draws32 t).Nodup) (hids : ∀ p ∈ db, ∀ x ∈ p.2, x.length = idSize) :
    pdb.total = cap ∧ ∀ p ∈ pdb, ∀ x ∈ p.2, x.length = idSize := by
  let I (db : DB) (N : Nat) (t : Tape) : Prop :=
    db.total = N ∧ N ≤ cap ∧ (db.map (·.1) ++ draws32 t).Nodup ∧ ∀ p ∈ db, ∀ x ∈ p.2, x.length = idSize
  obtain ⟨N', hge, htot, hle', _, hlens⟩ := padLoop_rule I h ⟨hN, hle, hfresh, hids⟩ fun s ⟨j1, _, j3, j4⟩ => by
    -- the dummy keyword is a 32-byte draw of `s.t`, hence not a keyword of `s.db`: it is appended
    have hd : draws32 s.t = s.kw :: draws32 s.t1 := by
      rw [takeBytes_tape s.keyword]
      simp [draws32, takeBytes_len s.keyword]
    rw [hd] at j3
    obtain ⟨_, _, hdisj⟩ := List.nodup_append.mp j3
    have hkfresh : s.kw ∉ s.db.map (·.1) := fun hm => hdisj s.kw hm s.kw List.mem_cons_self rfl
    have hsub : (draws32 s.t').Sublist (draws32 s.t1) := draws32_eq ▸ drawsLen_suffix 32 s.suffix
    show I (dbInsert s.db s.kw s.ids) (s.N + s.ids.length) s.t'
    rw [dbInsert_fresh s.ids hkfresh]
    refine ⟨by rw [DB.total_append, j1]; rfl, s.fits, ?_, List.forall_mem_append.mpr ⟨j4, fun p hp x hx => ?_⟩⟩
    · rw [List.map_append, List.append_assoc]
      exact j3.sublist ((List.Sublist.refl _).append (hsub.cons_cons s.kw))
    · rw [List.mem_singleton.mp hp] at hx
      exact s.lens x hx
  exact ⟨htot.trans (Nat.le_antisymm hle' hge), hlens⟩

end padLoop

theorem fillers_inv {a b k : Nat} {t t' : Tape} {ps : List (Bytes × Bytes)} (h : fillers a b k t = .ok (ps, t')) :
    ps.length = k ∧ EntLens ps a b ∧ (∀ p ∈ ps, Draw.bytes p.2 ∈ t) ∧ Suffix t' t := by
  induction k generalizing t ps with
  | zero => cases h; exact ⟨rfl, nofun, nofun, .refl _⟩
  | succ m ih =>
    simp only [fillers, ok_inv] at h
    obtain ⟨⟨x, t1⟩, hx, ⟨y, t2⟩, hy, ⟨ps', t3⟩, hr, h⟩ := h
    dsimp only at hy hr
    cases h
    obtain ⟨i1, i2, i3, i4⟩ := ih hr
    have s2 : Suffix t2 t := (takeBytes_suffix hy).trans (takeBytes_suffix hx)
    have hy' : Draw.bytes y ∈ t := (takeBytes_suffix hx).mem (by rw [takeBytes_tape hy]; exact List.mem_cons_self)
    exact ⟨congrArg (· + 1) i1, List.forall_mem_cons.mpr ⟨⟨takeBytes_len hx, takeBytes_len hy⟩, i2⟩,
      List.forall_mem_cons.mpr ⟨hy', fun e he => s2.mem (i3 e he)⟩, i4.trans s2⟩

/-- `L` is the entries `es` followed by fillers drawn on `t`, up to `cnt` entries (none if `es` has more); `a`, `b`: the label
    and value lengths of the fillers -/
def Padded (t : Tape) (es L : List (Bytes × Bytes)) (cnt a b : Nat) : Prop :=
  ∃ fs, L = es ++ fs ∧ fs.length = cnt - es.length ∧ EntLens fs a b ∧ ∀ p ∈ fs, Draw.bytes p.2 ∈ t

namespace Padded
variable {t t' : Tape} {es L : List (Bytes × Bytes)} {cnt a b : Nat}

theorem mono (hs : Suffix t' t) (h : Padded t' es L cnt a b) : Padded t es L cnt a b := by
  obtain ⟨fs, h1, h2, h3, h4⟩ := h
  exact ⟨fs, h1, h2, h3, fun p hp => hs.mem (h4 p hp)⟩

theorem mem (h : Padded t es L cnt a b) {e : Bytes × Bytes} (he : e ∈ es) : e ∈ L := by
  obtain ⟨fs, rfl, _⟩ := h
  exact List.mem_append_left _ he

theorem shape (h : Padded t es L cnt a b) (hn : es.length ≤ cnt) (he : EntLens es a b) : L.length = cnt ∧ EntLens L a b := by
  obtain ⟨fs, rfl, h2, h3, _⟩ := h
  refine ⟨by rw [List.length_append, h2]; omega, fun e hm => ?_⟩
  rcases List.mem_append.mp hm with hm | hm
  · exact he e hm
  · exact h3 e hm

theorem fromTape (h : Padded t es L cnt a b) (he : ∀ p ∈ es, FromTape t p.2) : ∀ p ∈ L, FromTape t p.2 := by
  obtain ⟨fs, rfl, _, _, hfs⟩ := h
  exact fun p hp => (List.mem_append.mp hp).elim (he p) fun hp => .of_draw (hfs p hp)

end Padded

theorem fillers_padded {a b cnt : Nat} {es fs : List (Bytes × Bytes)} {t t' : Tape}
    (h : fillers a b (cnt - es.length) t = .ok (fs, t')) : Padded t es (es ++ fs) cnt a b ∧ Suffix t' t := by
  obtain ⟨f1, f2, f3, s⟩ := fillers_inv h
  exact ⟨⟨fs, rfl, f1, f2, f3⟩, s⟩

/-- `es`: the entries, each with the level it is addressed to; `TL`: the `n` lists, the `j`-th being the entries addressed
    to `j` followed by fillers, up to `cnt j` entries with labels of `a` and values of `b j` bytes -/
structure PaddedLevels (t : Tape) (es : List (Nat × Bytes × Bytes)) (TL : List (List (Bytes × Bytes))) (n a : Nat)
    (cnt b : Nat → Nat) : Prop where
  lt : ∀ e ∈ es, e.1 < n
  length : TL.length = n
  level : ∀ j, j < n → ∃ L, TL[j]? = some L ∧ Padded t (atLevel es j) L (cnt j) a (b j)

namespace PaddedLevels
variable {t t' : Tape} {es : List (Nat × Bytes × Bytes)} {TL : List (List (Bytes × Bytes))} {n a : Nat} {cnt b : Nat → Nat}

theorem mono (hs : Suffix t' t) (h : PaddedLevels t' es TL n a cnt b) : PaddedLevels t es TL n a cnt b :=
  { h with level := fun j hj => (h.level j hj).imp fun _ hL => ⟨hL.1, hL.2.mono hs⟩ }

/-- `hnd`: `buildTable` keeps one entry per label -/
theorem get (h : PaddedLevels t es TL n a cnt b) (hnd : ∀ L ∈ TL, (L.map (·.1)).Nodup) {j : Nat} {x : Bytes × Bytes}
    (he : (j, x) ∈ es) : j < TL.length ∧ ((TL.map buildTable)[j]?).bind (·.get x.1) = some x.2 := by
  have hj := h.lt _ he
  obtain ⟨L, hL, hpad⟩ := h.level j hj
  refine ⟨h.length ▸ hj, ?_⟩
  rw [List.getElem?_map, hL]
  exact buildTable_get_of_mem L _ _ (hnd L (List.mem_of_getElem? hL)) (hpad.mem (mem_atLevel.mpr he))

theorem shape (h : PaddedLevels t es TL n a cnt b) (hcnt : ∀ j, j < n → (atLevel es j).length ≤ cnt j)
    (hlens : ∀ e ∈ es, e.2.1.length = a ∧ e.2.2.length = b e.1) :
    ∀ j L, TL[j]? = some L → L.length = cnt j ∧ EntLens L a (b j) := by
  intro j L hL
  have hj : j < n := h.length ▸ (List.getElem?_eq_some_iff.mp hL).1
  obtain ⟨L', hL', hpad⟩ := h.level j hj
  rw [hL] at hL'
  cases hL'
  exact hpad.shape (hcnt j hj) fun x hx => hlens (j, x) (mem_atLevel.mp hx)

theorem allFrom (h : PaddedLevels t es TL n a cnt b) (he : ∀ e ∈ es, FromTape t e.2.2) : AllFrom t TL := by
  intro L hL
  obtain ⟨j, hj, rfl⟩ := List.getElem_of_mem hL
  obtain ⟨L', hL', hpad⟩ := h.level j (h.length ▸ hj)
  rw [List.getElem?_eq_getElem hj] at hL'
  cases hL'
  exact hpad.fromTape fun x hx => he (j, x) (mem_atLevel.mp hx)

end PaddedLevels

theorem level_get_none {TL : List (List (Bytes × Bytes))} {j : Nat} {l : Bytes} (h : ∀ L, TL[j]? = some L → l ∉ L.map (·.1)) :
    ((TL.map buildTable)[j]?).bind (·.get l) = none := by
  cases hget : TL[j]? with
  | none => simp [hget]
  | some L =>
    simp only [List.getElem?_map, hget, Option.map_some, Option.bind_some]
    exact buildTable_get_none L l (h L hget)

-- `CT14.cipherLen` and `CT14.padLevels` serve both schemes: ANSS16 calls the first, and its own `padLevels` is the second
-- with one level more (`ANSS16.padLevels_eq`).  So their lemmas are stated here, under `CT14` and about a `CT14Cfg`.

namespace CT14
variable (cfg : CT14Cfg) (lv : Leaves)

/-- ciphertext length of one identifier -/
def clen : Nat := 16 + 16 * (cfg.idSize.toNat / 16 + 1)

variable {cfg lv} (hE : BlockLen lv)
include hE

theorem cipherLen_inv {ske : AESxCBC} {keyLen idSize : Int} {t t' : Tape} {n : Nat}
    (h : cipherLen ske lv keyLen idSize t = .ok (n, t')) : n = 16 + 16 * (idSize.toNat / 16 + 1) ∧ Suffix t' t := by
  simp only [cipherLen, ok_inv] at h
  obtain ⟨⟨c, t1⟩, hc, h⟩ := h
  cases h
  obtain ⟨e, s⟩ := skeEncrypt_enc hc
  exact ⟨by simpa [zeros] using e.length hE, s⟩

theorem padLevels_inv {tt i : Nat} {Ls Ls' : List (List (Bytes × Bytes))} {t t' : Tape}
    (h : padLevels cfg lv tt i Ls t = .ok (Ls', t')) :
    Suffix t' t ∧ Ls'.length = Ls.length ∧ ∀ j L, Ls[j]? = some L →
      ∃ L', Ls'[j]? = some L' ∧ Padded t L L' (2 ^ (tt - (i + j))) cfg.l.toNat (2 ^ (i + j) * clen cfg) := by
  induction Ls generalizing i t Ls' with
  | nil => cases h; exact ⟨.refl _, rfl, nofun⟩
  | cons L rest ih =>
    simp only [padLevels, ok_inv] at h
    obtain ⟨⟨cl, t1⟩, hcl, ⟨fs, t2⟩, hfs, ⟨more, t3⟩, hr, h⟩ := h
    cases h
    obtain ⟨rfl, s1⟩ := cipherLen_inv hE hcl
    obtain ⟨hfs, s2⟩ := fillers_padded hfs
    obtain ⟨s3, i1, i2⟩ := ih hr
    refine ⟨s3.trans (s2.trans s1), by rw [List.length_cons, List.length_cons, i1], fun j M hM => ?_⟩
    cases j with
    | zero =>
      cases hM
      exact ⟨_, rfl, hfs.mono s1⟩
    | succ j =>
      obtain ⟨M', g1, g2⟩ := i2 j M hM
      have e : i + (j + 1) = i + 1 + j := Nat.add_right_comm i j 1
      exact ⟨M', g1, e ▸ g2.mono (s2.trans s1)⟩

theorem pushAll_padLevels_inv {n tt : Nat} {es : List (Nat × Bytes × Bytes)} {Ls TL : List (List (Bytes × Bytes))} {t t' : Tape}
    (hpush : pushAll es (List.replicate n []) = .ok Ls)
    (hpad : padLevels cfg lv tt 0 Ls t = .ok (TL, t')) :
    Suffix t' t ∧ PaddedLevels t es TL n cfg.l.toNat (fun j => 2 ^ (tt - j)) fun j => 2 ^ j * clen cfg := by
  obtain ⟨p1, p2, p3⟩ := pushAll_inv hpush
  obtain ⟨s, q1, q2⟩ := padLevels_inv hE hpad
  rw [List.length_replicate] at p1 p2
  refine ⟨s, p2, by rw [q1, p1], fun j hj => ?_⟩
  have := q2 j _ (p3 j [] (List.getElem?_replicate_of_lt hj))
  rwa [List.nil_append, Nat.zero_add] at this

end CT14

theorem encAll_onlyMiss (ske : AESxCBC) (lv : Leaves) (hp : PlainSke ske) (key : Bytes) (xs : List Bytes) (t : Tape)
    (hk : (key.length : Int) = ske.keyLength) : OnlyMiss (encAll ske lv key xs t) := by
  induction xs generalizing t with
  | nil => exact OnlyMiss.ok _
  | cons x rest ih =>
    unfold encAll
    apply OnlyMiss.bind (skeEncrypt_onlyMiss ske lv hp key x t hk)
    intro ⟨c, t1⟩ _
    apply OnlyMiss.bind (ih t1)
    intro ⟨cs, t2⟩ _
    exact OnlyMiss.ok _

theorem fillers_onlyMiss (a b k : Nat) (t : Tape) : OnlyMiss (fillers a b k t) := by
  induction k generalizing t with
  | zero => exact OnlyMiss.ok _
  | succ m ih =>
    unfold fillers
    apply OnlyMiss.bind (takeBytes_onlyMiss a t)
    intro ⟨x, t1⟩ _
    apply OnlyMiss.bind (takeBytes_onlyMiss b t1)
    intro ⟨y, t2⟩ _
    apply OnlyMiss.bind (ih t2)
    intro ⟨ps, t3⟩ _
    exact OnlyMiss.ok _

theorem CT14.cipherLen_onlyMiss (ske : AESxCBC) (lv : Leaves) (hp : PlainSke ske) (keyLen idSize : Int) (t : Tape)
    (hk : ((keyLen.toNat : Nat) : Int) = ske.keyLength) : OnlyMiss (CT14.cipherLen ske lv keyLen idSize t) := by
  unfold CT14.cipherLen
  have hzk : (((zeros keyLen.toNat).length : Nat) : Int) = ske.keyLength := by
    rw [zeros, List.length_replicate]
    exact hk
  apply OnlyMiss.bind (skeEncrypt_onlyMiss ske lv hp _ _ t hzk)
  intro ⟨c, t1⟩ _
  exact OnlyMiss.ok _

/-- any fuel above `cap - N` is enough, since every round adds at least one posting: the loop cannot diverge (both `setupLists`
    pass `cap + 1`) -/
theorem padLoop_onlyMiss (idSize cap fuel : Nat) (db : DB) (N : Nat) (t : Tape) (hf : cap - N < fuel) :
    OnlyMiss (padLoop idSize cap fuel db N t) := by
  induction fuel generalizing db N t with
  | zero => omega
  | succ f ih =>
    unfold padLoop
    split
    · rename_i hlt
      apply OnlyMiss.bind (takeBytes_onlyMiss 32 t)
      intro ⟨kw, t1⟩ _
      apply OnlyMiss.bind (takeNat_onlyMiss t1)
      intro ⟨n, t2⟩ _
      dsimp only
      split
      · exact OnlyMiss.bind OnlyMiss.throw_miss fun _ h => nomatch h
      · rename_i hn
        apply OnlyMiss.bind (takeBytesN_onlyMiss idSize n t2)
        intro ⟨ids, t3⟩ _
        exact ih _ _ _ (by omega)
    · exact OnlyMiss.ok _

theorem CT14.padLevels_onlyMiss (cfg : CT14Cfg) (lv : Leaves) (hp : PlainSke cfg.ske)
    (hk : ((cfg.kPrime.toNat : Nat) : Int) = cfg.ske.keyLength) (tt i : Nat) (Ts : List (List (Bytes × Bytes))) (t : Tape) :
    OnlyMiss (CT14.padLevels cfg lv tt i Ts t) := by
  induction Ts generalizing i t with
  | nil => exact OnlyMiss.ok _
  | cons L rest ih =>
    unfold CT14.padLevels
    apply OnlyMiss.bind (cipherLen_onlyMiss cfg.ske lv hp _ _ t hk)
    intro ⟨clen, t1⟩ _
    apply OnlyMiss.bind (fillers_onlyMiss _ _ _ t1)
    intro ⟨fs, t2⟩ _
    apply OnlyMiss.bind (ih (i + 1) t2)
    intro ⟨more, t3⟩ _
    exact OnlyMiss.ok _

theorem pushAt_returns {α : Type} (ls : List (List α)) {j : Nat} (x : α) (h : j < ls.length) :
    ∃ ls', pushAt ls j x = .ok ls' ∧ ls'.length = ls.length :=
  ⟨_, pushAt_eq_ok.mpr ⟨_, List.getElem?_eq_getElem h, rfl⟩, List.length_set⟩

end SSEPy.Sch

-- `shapeOf` (C05) is defined here: it is applied to the tables of these two schemes only.

namespace SSEPy.C05
open SSEPy.Sch

/-- the shape of a table: the list of (label length, value length) of its entries in stored order -/
def shapeOf (T : Table) : List (Nat × Nat) := T.map fun p => (p.1.length, p.2.length)

theorem shape_replicate {L T : List (Bytes × Bytes)} (hp : T.Perm L) {n a b : Nat} (hlen : L.length = n) (he : EntLens L a b) :
    shapeOf T = List.replicate n (a, b) := by
  unfold shapeOf
  apply List.eq_replicate_iff.mpr
  refine ⟨by rw [List.length_map, hp.length_eq, hlen], ?_⟩
  intro x hx
  obtain ⟨e, hem, rfl⟩ := List.mem_map.mp hx
  have := he e (hp.mem_iff.mp hem)
  rw [this.1, this.2]

theorem shapeOf_levels {TL : List (List (Bytes × Bytes))} {n a : Nat} {f g : Nat → Nat} (hlen : TL.length = n)
    (h : ∀ j L, TL[j]? = some L → L.length = f j ∧ EntLens L a (g j)) (hnd : ∀ L ∈ TL, (L.map (·.1)).Nodup) :
    (TL.map buildTable).map shapeOf = (List.range n).map fun j => List.replicate (f j) (a, g j) := by
  apply List.ext_getElem
  · simp [hlen]
  · intro j h1 _
    simp only [List.length_map] at h1
    obtain ⟨hl, he⟩ := h j TL[j] (List.getElem?_eq_getElem h1)
    simp only [List.getElem_map, List.getElem_range]
    exact shape_replicate (buildTable_perm _ (hnd _ (List.getElem_mem h1))) hl he

end SSEPy.C05
