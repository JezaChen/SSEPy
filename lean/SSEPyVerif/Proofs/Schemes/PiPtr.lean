/-
  PiPtr: identifier blocks in the array at the recorded random positions, pointer blocks in a counter chain.  `encDb_inv` says
  once what the keyword loop of `_Enc` returns — keyword by keyword the array cells and the chain over their pointers, the
  array being the empty array overwritten with all cells (`Wrote`) — and the search theorem, the shape, the IV prefixes and the
  placement of the index are read off it.
-/
import SSEPyVerif.Proofs.Schemes.Chain
import SSEPyVerif.Proofs.Schemes.Place
import SSEPyVerif.Model.Schemes.PiPtr
namespace SSEPy.Sch.PiPtr

variable (cfg : PiPtrCfg) (lv : Leaves)

theorem _root_.SSEPy.Sch.PiPtrCfg.chain_prfF : cfg.chain.prfF = cfg.prfF := rfl

/-- for an accepted configuration (`cfgBuild_accepted`) each is `param_pos` -/
structure GoodCfg : Prop where
  B : 0 < cfg.B
  b : 0 < cfg.b
  ids : 0 < cfg.idSize

/-- block `j` sits, encrypted, at position `poss[j]` of the array, and `ptrs[j]` is that position written in `idx` bytes -/
inductive Placed (K2 : Bytes) (idx : Nat) (A : List (Option Bytes)) : List Bytes → List Nat → List Bytes → Prop where
  | nil : Placed K2 idx A [] [] []
  | cons (blk : Bytes) (rest : List Bytes) (pos : Nat) (poss : List Nat) (ptr : Bytes) (ptrs : List Bytes) (d : Bytes) :
      intToBytesNat pos idx = .ok ptr → A[pos]? = some (some d) → cfg.ske.decrypt lv.D K2 d = .ok blk →
      Placed K2 idx A rest poss ptrs → Placed K2 idx A (blk :: rest) (pos :: poss) (ptr :: ptrs)

theorem Placed.lengths {K2 : Bytes} {idx : Nat} {A : List (Option Bytes)} {blocks : List Bytes} {poss : List Nat}
    {ptrs : List Bytes} (h : Placed cfg lv K2 idx A blocks poss ptrs) :
    poss.length = blocks.length ∧ ptrs.length = blocks.length := by
  induction h with
  | nil => exact ⟨rfl, rfl⟩
  | cons _ _ _ _ _ _ _ _ _ _ _ ih => simp [ih.1, ih.2]

theorem placed_of {K2 : Bytes} {idx : Nat} {A : List (Option Bytes)} {blocks : List Bytes} {pds : List (Nat × Bytes)}
    {ptrs : List Bytes} (h1 : Forall₂ (fun blk pd => cfg.ske.decrypt lv.D K2 pd.2 = .ok blk) blocks pds)
    (h2 : Forall₂ (fun pd ptr => intToBytesNat pd.1 idx = .ok ptr) pds ptrs)
    (hc : ∀ pd ∈ pds, A[pd.1]? = some (some pd.2)) : Placed cfg lv K2 idx A blocks (pds.map (·.1)) ptrs := by
  induction h1 generalizing ptrs with
  | nil => cases h2; exact .nil
  | cons h _ ih =>
    cases h2 with
    | cons hp h2 =>
      exact .cons _ _ _ _ _ _ _ hp (hc _ List.mem_cons_self) h (ih h2 fun pd hpd => hc pd (List.mem_cons_of_mem _ hpd))

theorem placeBlocks_eq (K2 : Bytes) (idx : Nat) (blocks : List Bytes) (avail : List Nat)
    (A : List (Option Bytes)) (t : Tape) :
    placeBlocks cfg lv K2 idx blocks avail A t = placeG cfg.ske lv (intToBytesNat · idx) K2 blocks avail A t := by
  induction blocks generalizing avail A t with
  | nil => rfl
  | cons blk rest ih =>
    unfold placeBlocks placeG
    cases avail.getLast? with
    | none => rfl
    | some pos => simp only [ih]

theorem placeBlocks_inv {K2 : Bytes} {idx : Nat} {blocks : List Bytes} {avail : List Nat} {A : List (Option Bytes)} {t : Tape}
    {ptrs : List Bytes} {avail' : List Nat} {A' : List (Option Bytes)} {t' : Tape}
    (h : placeBlocks cfg lv K2 idx blocks avail A t = .ok (ptrs, avail', A', t')) :
    ∃ pds, Wrote A avail avail' A' pds ∧ Forall₂ (fun blk pd => Enc cfg.ske lv t K2 blk pd.2) blocks pds ∧
      Forall₂ (fun pd ptr => intToBytesNat pd.1 idx = .ok ptr) pds ptrs ∧ Suffix t' t := by
  rw [placeBlocks_eq] at h
  exact placeG_inv h

/-- what `encDb` computes for one keyword; the pointer blocks `pblocks` are the chunks of the counter chain `chain` -/
structure Kw where
  K1 : Bytes
  K2 : Bytes
  blocks : List Bytes
  cells : List (Nat × Bytes)
  ptrs : List Bytes
  pblocks : List Bytes
  chain : List (Bytes × Bytes)

structure KwOK (K : Bytes) (idx : Nat) (t : Tape) (p : Bytes × List Bytes) (r : Kw) : Prop where
  token : token cfg lv K p.1 = .ok (r.K1, r.K2)
  split : partitionBlocks p.2 cfg.B cfg.idSize = .ok r.blocks
  enc : Forall₂ (fun blk pd => Enc cfg.ske lv t r.K2 blk pd.2) r.blocks r.cells
  ptr : Forall₂ (fun pd ptr => intToBytesNat pd.1 idx = .ok ptr) r.cells r.ptrs
  psplit : partitionBlocks r.ptrs cfg.b idx = .ok r.pblocks
  chunks : Chain.Chunks cfg.chain lv t r.K1 r.K2 0 r.pblocks r.chain

variable {cfg lv} in
theorem KwOK.mono {K : Bytes} {idx : Nat} {t t' : Tape} {p : Bytes × List Bytes} {r : Kw}
    (hs : Suffix t' t) (h : KwOK cfg lv K idx t' p r) : KwOK cfg lv K idx t p r :=
  { h with
    enc := h.enc.imp fun _ _ e => e.mono hs
    chunks := h.chunks.mono hs }

theorem encDb_inv {K : Bytes} {idx : Nat} {db : DB} {avail : List Nat} {A : List (Option Bytes)} {t : Tape}
    {L : List (Bytes × Bytes)} {A' : List (Option Bytes)} {t' : Tape}
    (h : encDb cfg lv K idx db avail A t = .ok (L, A', t')) :
    ∃ avail' recs, Forall₂ (KwOK cfg lv K idx t) db recs ∧ L = recs.flatMap Kw.chain ∧
      Wrote A avail avail' A' (recs.flatMap Kw.cells) ∧ Suffix t' t := by
  induction db generalizing avail A t L with
  | nil =>
    simp only [encDb, ok_inv, Prod.mk.injEq] at h
    obtain ⟨rfl, rfl, rfl⟩ := h
    exact ⟨avail, [], .nil, rfl, .refl _ _, .refl _⟩
  | cons q rest ih =>
    obtain ⟨w, ids⟩ := q
    simp only [encDb, ok_inv] at h
    obtain ⟨⟨K1, K2⟩, htk, blocks, hb, ⟨ptrs, avail1, A1, t1⟩, hpl, pblocks, hpb, ⟨ps, t2⟩, hch,
      ⟨qs, A2, t3⟩, hr, h⟩ := h
    cases h
    obtain ⟨pds, w1, e1, p1, s1⟩ := placeBlocks_inv cfg lv hpl
    obtain ⟨c1, c2⟩ := Chain.encChunks_inv cfg.chain lv hch
    have s2 : Suffix t2 t := (Suffix.of_eq c2).trans s1
    obtain ⟨avail', recs, f, rfl, w2, s3⟩ := ih hr
    have hkw : KwOK cfg lv K idx t (w, ids)
        { K1 := K1, K2 := K2, blocks := blocks, cells := pds, ptrs := ptrs, pblocks := pblocks, chain := ps } :=
      { token := htk, split := hb, enc := e1, ptr := p1, psplit := hpb, chunks := c1.mono s1 }
    exact ⟨avail', _ :: recs, .cons hkw (f.imp fun _ _ k => k.mono s2), rfl, w1.trans w2, s3.trans s2⟩

theorem setup_inv {K : Bytes} {db : DB} {t t' : Tape} {edb : PiPtrEDB} (h : setup cfg lv K db t = .ok (edb, t')) :
    ∃ sample t0 L, takeNats t = .ok (sample, t0) ∧ sample.length = arrayLen cfg db - 1 ∧
      encDb cfg lv K (bytesFor (arrayLen cfg db)) db sample (List.replicate (arrayLen cfg db) none) t0 = .ok (L, edb.A, t') ∧
      edb.D = buildTable L := by
  simp only [setup, ok_inv] at h
  obtain ⟨⟨sample, t0⟩, h1, hlen, ⟨L, A, t1⟩, h2, h⟩ := h
  cases h
  exact ⟨sample, t0, L, h1, Decidable.not_not.mp hlen, h2, rfl⟩

variable {cfg lv} in
theorem cell_of {K : Bytes} {idx : Nat} {t : Tape} {db : DB} {recs : List Kw} {n : Nat}
    {sample avail' : List Nat} {A : List (Option Bytes)} (f : Forall₂ (KwOK cfg lv K idx t) db recs)
    (w : Wrote (List.replicate n none) sample avail' A (recs.flatMap Kw.cells)) {c : Bytes} (hc : some c ∈ A) :
    ∃ p ∈ db, ∃ K2 blocks blk, partitionBlocks p.2 cfg.B cfg.idSize = .ok blocks ∧ blk ∈ blocks ∧ Enc cfg.ske lv t K2 blk c := by
  obtain ⟨pd, hpd, rfl⟩ := w.cell_of_empty hc
  obtain ⟨r, hr, hpdr⟩ := List.mem_flatMap.mp hpd
  obtain ⟨p, hp, k⟩ := f.of_mem_right hr
  obtain ⟨blk, hblk, e⟩ := k.enc.of_mem_right hpdr
  exact ⟨p, hp, r.K2, r.blocks, blk, k.split, hblk, e⟩

/-- one pointer per identifier block, `b` pointers per pointer block -/
def kwPtrBlocks (ids : List Bytes) : Nat := ceilDiv (ceilDiv ids.length cfg.B.toNat) cfg.b.toNat

/-- the number of pointer blocks of a database: `_Enc` writes one dictionary entry for each -/
def nPtrBlocks (db : DB) : Nat := (db.map fun p => kwPtrBlocks cfg p.2).sum

variable {cfg} in
theorem ptrBlocks_count (hg : GoodCfg cfg) {ids blocks ptrs pblocks : List Bytes} {idx : Nat}
    (hbl : partitionBlocks ids cfg.B cfg.idSize = .ok blocks) (hlen : ptrs.length = blocks.length)
    (hpb : partitionBlocks ptrs cfg.b idx = .ok pblocks) : pblocks.length = kwPtrBlocks cfg ids := by
  rw [(partitionBlocks_inv_default hpb hg.b (Int.natCast_nonneg _)).1, hlen,
    (partitionBlocks_inv_default hbl hg.B (Int.le_of_lt hg.ids)).1, kwPtrBlocks]

variable {cfg lv} in
theorem KwOK.shape (hl : LeafLaws lv) (hh : cfg.prfF.hashLen = 20) (hg : GoodCfg cfg)
    {K : Bytes} {idx : Nat} {t : Tape} {p : Bytes × List Bytes} {r : Kw} (k : KwOK cfg lv K idx t p r) :
    r.chain.map (fun e => (e.1.length, e.2.length)) =
      List.replicate (kwPtrBlocks cfg p.2) (cfg.prfF.outputLength.toNat, clen (cfg.b.toNat * idx)) := by
  have hpl : ∀ q ∈ r.ptrs, q.length = ((idx : Nat) : Int).toNat := fun q hq => by
    obtain ⟨pd, _, hpd⟩ := k.ptr.of_mem_right hq
    obtain ⟨_, hlen, _⟩ := ptr_valid hpd
    exact hlen
  rw [Chain.Chunks.lens (cfg := cfg.chain) hl hh k.chunks]
  refine List.eq_replicate_iff.mpr ⟨?_, fun x hx => ?_⟩
  · rw [List.length_map, ptrBlocks_count hg k.split (k.ptr.length_right.trans k.enc.length_right) k.psplit]
  · obtain ⟨ch, hch', rfl⟩ := List.mem_map.mp hx
    rw [(partitionBlocks_inv_default k.psplit hg.b (Int.natCast_nonneg _)).2 hpl ch hch', Int.toNat_natCast, clen,
      PiPtrCfg.chain_prfF]

theorem encDb_shape (hl : LeafLaws lv) (hh : cfg.prfF.hashLen = 20) (hg : GoodCfg cfg)
    {K : Bytes} {idx n : Nat} {db : DB} {sample : List Nat} {t t' : Tape} {L : List (Bytes × Bytes)} {A : List (Option Bytes)}
    (h : encDb cfg lv K idx db sample (List.replicate n none) t = .ok (L, A, t'))
    (hids : ∀ p ∈ db, ∀ id ∈ p.2, id.length = cfg.idSize.toNat) :
    A.length = n ∧
    (∀ c, some c ∈ A → c.length = clen (cfg.B.toNat * cfg.idSize.toNat)) ∧
    L.map (fun p => (p.1.length, p.2.length)) =
      List.replicate (nPtrBlocks cfg db) (cfg.prfF.outputLength.toNat, clen (cfg.b.toNat * idx)) := by
  obtain ⟨avail', recs, f, rfl, w, _⟩ := encDb_inv cfg lv h
  refine ⟨by rw [w.length, List.length_replicate], fun c hc => ?_, ?_⟩
  · obtain ⟨p, hp, _, blocks, blk, hbl, hblk, e⟩ := cell_of f w hc
    rw [e.length_clen hl.enc_len, (partitionBlocks_inv_default hbl hg.B (Int.le_of_lt hg.ids)).2 (hids p hp) blk hblk]
  · rw [nPtrBlocks, ← flatMap_replicate, List.map_flatMap, List.flatMap_def, List.flatMap_def]
    congr 1
    exact (f.map_eq fun _ _ k => (k.shape hl hh hg).symm).symm

/-- number of identifier blocks of a database -/
def nBlocks (db : DB) : Nat :=
  (db.map fun p => match partitionBlocks p.2 cfg.B cfg.idSize with | .ok bl => bl.length | .error _ => 0).sum

/-- number of identifier blocks of one keyword's list (the `0` of a refused packing is never reached: the lemmas use this under a
    `setup` that returned, or with positive `B`) -/
def kwBlocks (ids : List Bytes) : Nat :=
  match partitionBlocks ids cfg.B cfg.idSize with | .ok bl => bl.length | .error _ => 0

theorem nBlocks_eq_sum (db : DB) : nBlocks cfg db = (db.map fun p => kwBlocks cfg p.2).sum := rfl

theorem kwBlocks_eq {ids blocks : List Bytes} (h : partitionBlocks ids cfg.B cfg.idSize = .ok blocks) :
    kwBlocks cfg ids = blocks.length := by
  rw [kwBlocks, h]

variable {cfg} in
theorem kwBlocks_eq_ceilDiv (hg : GoodCfg cfg) (ids : List Bytes) : kwBlocks cfg ids = ceilDiv ids.length cfg.B.toNat := by
  obtain ⟨blocks, hbl⟩ := partitionBlocks_returns ids (sz := cfg.idSize) hg.B (Int.le_of_lt hg.ids) (Or.inl rfl)
  rw [kwBlocks_eq cfg hbl, (partitionBlocks_inv_default hbl hg.B (Int.le_of_lt hg.ids)).1]

variable {cfg lv} in
theorem KwOK.count {K : Bytes} {idx : Nat} {t : Tape} {p : Bytes × List Bytes} {r : Kw}
    (k : KwOK cfg lv K idx t p r) : r.cells.length = kwBlocks cfg p.2 := by
  rw [k.enc.length_right, kwBlocks_eq cfg k.split]

variable {cfg lv} in
theorem cells_count {K : Bytes} {idx : Nat} {t : Tape} {db : DB} {recs : List Kw}
    (f : Forall₂ (KwOK cfg lv K idx t) db recs) : (recs.flatMap Kw.cells).length = nBlocks cfg db := by
  -- the type is given first: elaborating the function against `map_eq`'s unassigned `f`, `g` unfolds `kwBlocks`
  have h : db.map (fun p => kwBlocks cfg p.2) = recs.map (fun r => r.cells.length) := f.map_eq fun _ _ k => k.count.symm
  rw [List.length_flatMap, nBlocks_eq_sum, h]

theorem encDb_slots {K : Bytes} {idx n : Nat} {db : DB} {sample : List Nat} {t t' : Tape} {L : List (Bytes × Bytes)}
    {A : List (Option Bytes)} (h : encDb cfg lv K idx db sample (List.replicate n none) t = .ok (L, A, t')) :
    ∀ i, Occupied A i ↔ i ∈ sample.drop (sample.length - nBlocks cfg db) := by
  obtain ⟨avail', recs, f, _, w, _⟩ := encDb_inv cfg lv h
  intro i
  rw [← cells_count f]
  exact w.occupied_empty i

/-- where the blocks of a keyword are is a function of the free list and of block counts only -/
theorem encDb_segment (hde : Decrypts cfg.ske lv) {K : Bytes} {idx : Nat} {pre : DB} {w : Bytes} {ids : List Bytes} {post : DB}
    {sample : List Nat} {t t' : Tape} {L : List (Bytes × Bytes)} {A0 A : List (Option Bytes)}
    (h : encDb cfg lv K idx (pre ++ (w, ids) :: post) sample A0 t = .ok (L, A, t')) (hn : sample.Nodup) :
    ∃ K1 K2 blocks poss ptrs, token cfg lv K w = .ok (K1, K2) ∧ partitionBlocks ids cfg.B cfg.idSize = .ok blocks ∧
      Placed cfg lv K2 idx A blocks poss ptrs ∧
      poss = (sample.reverse.drop (nBlocks cfg pre)).take (kwBlocks cfg ids) := by
  obtain ⟨avail', recs, f, _, wr, _⟩ := encDb_inv cfg lv h
  obtain ⟨rpre, rrest, rfl, fpre, frest⟩ := f.append_left_inv
  cases frest with
  | @cons _ r _ rpost k fpost =>
    have hdec : Forall₂ (fun blk pd => cfg.ske.decrypt lv.D r.K2 pd.2 = .ok blk) r.blocks r.cells :=
      k.enc.imp fun _ _ e => e.dec hde
    have hcells : ∀ pd ∈ r.cells, A[pd.1]? = some (some pd.2) := fun pd hpd =>
      wr.holds hn (List.mem_flatMap.mpr ⟨r, List.mem_append_right _ List.mem_cons_self, hpd⟩)
    have hP : Placed cfg lv r.K2 idx A r.blocks (r.cells.map (·.1)) r.ptrs := placed_of cfg lv hdec k.ptr hcells
    refine ⟨r.K1, r.K2, r.blocks, r.cells.map (·.1), r.ptrs, k.token, k.split, hP, ?_⟩
    -- the reversed free list starts with the slots of the cells, in the order they were written
    have hpre : ((rpre.flatMap Kw.cells).map (·.1)).length = nBlocks cfg pre := by
      rw [List.length_map, cells_count fpre]
    have hthis : (r.cells.map (·.1)).length = kwBlocks cfg ids := by rw [List.length_map, k.count]
    rw [wr.reverse_avail, List.flatMap_append, List.flatMap_cons, List.map_append, List.map_append, List.append_assoc,
      List.append_assoc, List.drop_left' hpre, List.take_left' hthis]

theorem fetch_placed {K2 : Bytes} {idx : Nat} {A : List (Option Bytes)} {blocks : List Bytes} {poss : List Nat}
    {ptrs : List Bytes} (hP : Placed cfg lv K2 idx A blocks poss ptrs) {parts : List (List Bytes)}
    (hparts : mapE (fun b => parseBySize b cfg.idSize) blocks = .ok parts) :
    fetch cfg lv A K2 ptrs = .ok parts.flatten := by
  induction hP generalizing parts with
  | nil => cases hparts; rfl
  | cons blk rest pos poss ptr ptrs d h1 h2 h3 _ ih =>
    obtain ⟨ids, hids, parts', hp', rfl⟩ := mapE_cons_eq_ok.mp hparts
    have hpos : intFromBytes ptr = pos := (ptr_valid h1).1
    simp only [fetch, hpos, h2, h3, hids, ih hp', ok_bind, pure_eq, List.flatten_cons]

/-- the no-collision hypotheses of the PiPtr theorem for one run: labels distinct, and for the searched keyword the label
    one past its last pointer block is not stored -/
def NoColl (K : Bytes) (L : List (Bytes × Bytes)) (w : Bytes) (ids : List Bytes) : Prop :=
  (L.map (·.1)).Nodup ∧
  ∀ K1 K2, token cfg lv K w = .ok (K1, K2) →
    ∃ l, cfg.prfF.call lv.hmac K1 (natToBytesMin (ceilDiv (ceilDiv ids.length cfg.B.toNat) cfg.b.toNat)) = .ok l ∧
      l ∉ L.map (·.1)

theorem NoColl.end_fresh {K : Bytes} {L : List (Bytes × Bytes)} {w : Bytes} {ids : List Bytes} (h : NoColl cfg lv K L w ids)
    {K1 K2 : Bytes} (htk : token cfg lv K w = .ok (K1, K2)) :
    ∃ l, cfg.prfF.call lv.hmac K1 (natToBytesMin (kwPtrBlocks cfg ids)) = .ok l ∧ l ∉ L.map (·.1) := h.2 K1 K2 htk

theorem search_present (hde : Decrypts cfg.ske lv) (hg : GoodCfg cfg)
    {K : Bytes} {idx : Nat} {db : DB} {sample : List Nat} {A0 : List (Option Bytes)} {t t' : Tape} {L : List (Bytes × Bytes)}
    {edb : PiPtrEDB} (h : encDb cfg lv K idx db sample A0 t = .ok (L, edb.A, t')) (hD : edb.D = buildTable L)
    (hnd : sample.Nodup) (hpos : ∀ p ∈ sample, 0 < p)
    {w : Bytes} {ids : List Bytes} (hm : (w, ids) ∈ db) (hne : ids ≠ []) (hv : C17.ValidIds ids cfg.idSize.toNat)
    (hnc : NoColl cfg lv K L w ids) :
    ∃ tk, token cfg lv K w = .ok tk ∧ search cfg lv edb tk = .ok ids := by
  obtain ⟨avail', recs, f, hL, wr, _⟩ := encDb_inv cfg lv h
  obtain ⟨r, hr, k⟩ := f.of_mem_left hm
  have hin : ∀ pd ∈ r.cells, pd ∈ recs.flatMap Kw.cells := fun pd hpd => List.mem_flatMap.mpr ⟨_, hr, hpd⟩
  have hP : Placed cfg lv r.K2 idx edb.A r.blocks (r.cells.map (·.1)) r.ptrs :=
    placed_of cfg lv (k.enc.imp fun _ _ e => e.dec hde) k.ptr fun pd hpd => wr.holds hnd (hin pd hpd)
  obtain ⟨parts, hparts, hflat⟩ := blocks_roundtrip hg.B hg.ids hv k.split
  have hvp : C17.ValidIds r.ptrs idx := fun p hp => by
    obtain ⟨pd, hpd, h⟩ := k.ptr.of_mem_right hp
    obtain ⟨_, hlen, hnz⟩ := ptr_valid h
    exact ⟨hlen, hnz (hpos _ (wr.slot_mem_avail (hin pd hpd)))⟩
  have hblocks : r.blocks ≠ [] := partitionBlocks_ne_nil k.split hg.B (Int.le_of_lt hg.ids) (Int.le_refl 0) hne
  have hptrs : r.ptrs ≠ [] := by
    intro e
    have hlen : r.blocks.length = 0 := by rw [← hP.lengths.2, e, List.length_nil]
    exact hblocks (List.length_eq_zero_iff.mp hlen)
  -- there is at least one pointer, and it is a valid entry, so the width is positive
  have hidx : (0 : Int) < ((idx : Nat) : Int) := Int.natCast_pos.mpr (validIds_width_pos hvp hptrs)
  -- a pointer block of `b · idx` bytes, parsed by entry count `b`, gives pointers of `idx` bytes
  have hvpInt : C17.ValidIds r.ptrs ((idx : Nat) : Int).toNat := by rwa [Int.toNat_natCast]
  obtain ⟨pparts, hunpack, hpflat⟩ := blocks_roundtrip_count hg.b hidx (Or.inl rfl)
    (Nat.mul_div_cancel_left _ (Int.lt_toNat.mpr hg.b)) hvpInt k.psplit
  obtain ⟨lend, hlend, hfresh⟩ := hnc.end_fresh cfg lv k.token
  have hpn : r.pblocks.length = kwPtrBlocks cfg ids := ptrBlocks_count hg k.split hP.lengths.2 k.psplit
  rw [← hpn] at hlend
  have hsub : r.chain.Sublist L := by
    rw [hL, List.flatMap_def]
    exact List.sublist_flatten_of_mem (List.mem_map_of_mem hr)
  -- `ptrLoop` is the chain's probe loop over `cfg.chain`, and `|D| + 1` its `searchFuel`, both by unfolding
  have hloop : ptrLoop cfg lv (buildTable L) r.K1 r.K2 ((buildTable L).length + 1) 0 [] = .ok pparts.flatten :=
    Chain.searchLoop_table cfg.chain lv hde hnc.1 k.chunks hsub hlend hfresh hunpack
  refine ⟨(r.K1, r.K2), k.token, ?_⟩
  rw [search, hD, hloop, hpflat]
  exact (fetch_placed cfg lv hP hparts).trans (congrArg _ hflat)

structure Parsed (raw : RawCfg) (out : Int) : Prop where
  positive : checkParamPositive raw = .ok ()
  exist : checkParamExist
    ["param_lambda", "param_B", "param_b", "prf_f_output_length", "param_identifier_size", "prf_f", "ske"] raw = .ok ()
  getLambda : getInt raw "param_lambda" = .ok cfg.lambda
  getB : getInt raw "param_B" = .ok cfg.B
  getb : getInt raw "param_b" = .ok cfg.b
  getOut : getInt raw "prf_f_output_length" = .ok out
  getIdSize : getInt raw "param_identifier_size" = .ok cfg.idSize
  ske : AESxCBC.new cfg.lambda = .ok cfg.ske
  prfF : cfg.prfF = HmacPRF.new out cfg.lambda LENGTH_UNLIMITED 20

variable {cfg} in
theorem cfgBuild_inv {raw : RawCfg} (h : PiPtr.cfgBuild raw = .ok cfg) : ∃ out, Parsed cfg raw out := by
  simp only [PiPtr.cfgBuild, ok_inv] at h
  obtain ⟨_, hpos, _, hex, lam, hlam, B, hB, b, hb, out, hout, ids, hids, _, _, ske, hske, h⟩ := h
  subst h
  exact ⟨out,
    { positive := hpos, exist := hex, getLambda := hlam, getB := hB, getb := hb, getOut := hout, getIdSize := hids,
      ske := hske, prfF := rfl }⟩

variable {cfg} in
theorem cfgBuild_accepted {raw : RawCfg} (h : PiPtr.cfgBuild raw = .ok cfg) : GoodCfg cfg ∧ PlainSke cfg.ske := by
  obtain ⟨out, p⟩ := cfgBuild_inv h
  have pos := fun f z => param_pos _ raw f z p.positive p.exist
  have hg : GoodCfg cfg :=
    { B := pos "param_B" cfg.B (by decide +kernel) (by simp) p.getB
      b := pos "param_b" cfg.b (by decide +kernel) (by simp) p.getb
      ids := pos "param_identifier_size" cfg.idSize (by decide +kernel) (by simp) p.getIdSize }
  exact ⟨hg, (new_plain _ _ p.ske).1⟩

end SSEPy.Sch.PiPtr

