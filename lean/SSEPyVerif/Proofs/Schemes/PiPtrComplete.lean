/-
  PiPtr: `Setup` fails in the model only with `.miss`, for an accepted configuration with `prf_f_output_length =
  param_lambda`, a key of `λ` bytes, any database and a recorded `random.sample` of numbers below `|A|`.  No IndexError from
  popping free slots (there are exactly as many as identifier blocks), none from writing the array, and every slot number
  fits the pointer width `bytesFor |A|` (exact integer arithmetic: that the float `math.ceil(math.log2(|A|) / 8)` of
  construction.py agrees, so that there is no OverflowError, is the size assumption of DESIGN section 5).
-/
import SSEPyVerif.Proofs.Schemes.ChainComplete
import SSEPyVerif.Proofs.Schemes.PiPtr
namespace SSEPy.Sch.PiPtr

variable (cfg : PiPtrCfg) (lv : Leaves)

structure Usable : Prop where
  good : GoodCfg cfg
  keys : KeysFit cfg.prfF cfg.ske cfg.lambda

variable {cfg} in
theorem cfgBuild_usable {raw : RawCfg} (h : PiPtr.cfgBuild raw = .ok cfg)
    (hout : getInt raw "prf_f_output_length" = getInt raw "param_lambda") : Usable cfg := by
  obtain ⟨hg, _⟩ := cfgBuild_accepted h
  obtain ⟨out, p⟩ := cfgBuild_inv h
  cases p.getLambda.symm.trans (hout.symm.trans p.getOut)
  have hk : KeysFit cfg.prfF cfg.ske cfg.lambda := keysFit_of_new p.ske p.prfF
  exact { good := hg, keys := hk }

variable {cfg} in
theorem nBlocks_arrayLen (hg : GoodCfg cfg) (db : DB) : nBlocks cfg db = arrayLen cfg db - 1 := by
  rw [nBlocks_eq_sum, arrayLen, Nat.add_sub_cancel]
  exact congrArg List.sum (List.map_congr_left fun p _ => kwBlocks_eq_ceilDiv hg p.2)

theorem encDb_onlyMiss (hH : HmacLen lv) (hu : Usable cfg) (K : Bytes) (hK : (K.length : Int) = cfg.lambda) (idx : Nat)
    (db : DB) (avail : List Nat) (A : List (Option Bytes)) (t : Tape) (hav : nBlocks cfg db ≤ avail.length)
    (hp : ∀ p ∈ avail, p < A.length ∧ p < 256 ^ idx) : OnlyMiss (encDb cfg lv K idx db avail A t) := by
  induction db generalizing avail A t with
  | nil => exact OnlyMiss.ok _
  | cons q rest ih =>
    obtain ⟨w, ids⟩ := q
    have hg := hu.good
    -- `cfg.chain.prfF` and `cfg.chain.ske` reduce to those of `cfg`
    have hkeys : KeysFit cfg.chain.prfF cfg.chain.ske cfg.lambda := hu.keys
    have hr : Chain.Runnable cfg.chain := hkeys.chainRunnable
    obtain ⟨K1, K2, (htk : token cfg lv K w = .ok (K1, K2)), l1, l2⟩ :=
      hu.keys.token_returns hH K (1 :: w) (2 :: w) hK
    obtain ⟨blocks, hbl⟩ := partitionBlocks_returns ids (sz := cfg.idSize) hg.B (Int.le_of_lt hg.ids) (Or.inl rfl)
    rw [nBlocks_eq_sum, List.map_cons, List.sum_cons, kwBlocks_eq cfg hbl, ← nBlocks_eq_sum] at hav
    unfold encDb
    apply OnlyMiss.bind_ok htk
    apply OnlyMiss.bind_ok hbl
    have hk2 : (K2.length : Int) = cfg.ske.keyLength := l2.trans hu.keys.skeKey.symm
    have hk1 : (K1.length : Int) = cfg.prfF.keyLength := l1.trans hu.keys.fKey.symm
    have hplace : OnlyMiss (placeBlocks cfg lv K2 idx blocks avail A t) := by
      have hroom : blocks.length ≤ avail.length := Nat.le_trans (Nat.le_add_right _ _) hav
      have hptr : ∀ p ∈ avail, p < A.length ∧ ∃ ptr, intToBytesNat p idx = .ok ptr := fun p hp' =>
        ⟨(hp p hp').1, _, intToBytesNat_eq_ok.mpr ⟨(hp p hp').2, rfl⟩⟩
      rw [placeBlocks_eq]
      exact placeG_onlyMiss hu.keys.plain hk2 blocks avail A t hroom hptr
    apply OnlyMiss.bind hplace
    intro ⟨ptrs, avail1, A1, t1⟩ hpl
    obtain ⟨pds, wr, e, _, _⟩ := placeBlocks_inv cfg lv hpl
    obtain ⟨pblocks, hpb⟩ :=
      partitionBlocks_returns ptrs (sz := (idx : Int)) hg.b (Int.natCast_nonneg _) (Or.inl rfl)
    apply OnlyMiss.bind_ok hpb
    apply OnlyMiss.bind (Chain.encChunks_onlyMiss cfg.chain lv hr K1 K2 0 pblocks t1 hk1 hk2)
    intro ⟨ps, t2⟩ _
    have hav1 : nBlocks cfg rest ≤ avail1.length := wr.free_room (e.length_right ▸ hav)
    apply OnlyMiss.bind (ih avail1 A1 t2 hav1 (wr.free_bound hp))
    intro ⟨qs, A2, t3⟩ _
    exact OnlyMiss.ok _

theorem setup_onlyMiss (hH : HmacLen lv) (hu : Usable cfg) (K : Bytes) (hK : (K.length : Int) = cfg.lambda) (db : DB)
    (t : Tape)
    (hsample : ∀ sample t0, takeNats t = .ok (sample, t0) → ∀ p ∈ sample, p < arrayLen cfg db) :
    OnlyMiss (setup cfg lv K db t) := by
  unfold setup
  dsimp only
  apply OnlyMiss.bind (takeNats_onlyMiss t)
  intro ⟨sample, t0⟩ hs
  dsimp only
  split
  · exact OnlyMiss.throw_miss
  · rename_i heq
    have hlen : sample.length = arrayLen cfg db - 1 := Decidable.not_not.mp heq
    have hav : nBlocks cfg db ≤ sample.length := by
      rw [nBlocks_arrayLen hu.good db, hlen]
      exact Nat.le_refl _
    -- `bytesFor n` bytes hold every number below `n`
    have hbits : clog2 (arrayLen cfg db) ≤ 8 * bytesFor (arrayLen cfg db) := by
      rw [Nat.mul_comm, bytesFor]
      exact le_ceilDiv_mul _ 8 (by decide)
    have hwidth : arrayLen cfg db ≤ 256 ^ bytesFor (arrayLen cfg db) :=
      Nat.le_trans (le_two_pow_clog2 _) (two_pow_le_256_pow hbits)
    have hp := sample_fits hwidth (hsample sample t0 hs)
    apply OnlyMiss.bind (encDb_onlyMiss cfg lv hH hu K hK (bytesFor (arrayLen cfg db)) db sample _ t0 hav hp)
    intro ⟨L, A, t1⟩ _
    exact OnlyMiss.ok _

end SSEPy.Sch.PiPtr
