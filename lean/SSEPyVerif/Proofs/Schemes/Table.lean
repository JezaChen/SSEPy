/-
  Tables built by `build_from_list` / `create_hash_table` / `create_dictionary_from_list`: with distinct labels the table is
  the pair list sorted by Python's `bytes` order (`buildTable_eq_sorted`); look-up, size, label order and membership follow.
  Then the database as a list of rows (`DB.total_*`, `DB.get_*`, `nodup_keys_unique`).
-/
import SSEPyVerif.Model.Schemes.Common
import SSEPyVerif.Proofs.List

namespace SSEPy.Sch

theorem lookup_tinsert (T : Table) (k v k' : Bytes) :
    (tinsert T k v).lookup k' = if k' = k then some v else T.lookup k' := by
  induction T with
  | nil => rw [tinsert, lookup_cons_if]
  | cons p rest ih =>
    obtain ⟨a, b⟩ := p
    rw [tinsert]
    split
    · subst a
      rw [lookup_cons_if, lookup_cons_if]
      split <;> rfl
    · rename_i h
      rw [lookup_cons_if, lookup_cons_if, ih]
      by_cases h2 : k' = a
      · rw [if_pos h2, if_neg (h2 ▸ h), if_pos h2]
      · rw [if_neg h2, if_neg h2]

theorem keys_tinsert (T : Table) (k v : Bytes) :
    (tinsert T k v).map (·.1) = if k ∈ T.map (·.1) then T.map (·.1) else T.map (·.1) ++ [k] := by
  induction T with
  | nil => simp [tinsert]
  | cons p rest ih =>
    obtain ⟨a, b⟩ := p
    simp only [tinsert]
    by_cases h : a = k
    · subst h; simp
    · have hk : ¬ k = a := fun e => h e.symm
      simp only [h, if_false, List.map_cons, ih, List.mem_cons, hk, false_or]
      split <;> simp

theorem tinsert_length (T : Table) (k v : Bytes) : (tinsert T k v).length = if k ∈ T.map (·.1) then T.length else T.length + 1 := by
  have := congrArg List.length (keys_tinsert T k v)
  simp only [List.length_map] at this
  rw [this]
  split <;> simp

theorem mem_tinsert (T : Table) (k v : Bytes) (e : Bytes × Bytes) (h : e ∈ tinsert T k v) : e ∈ T ∨ e = (k, v) := by
  induction T with
  | nil => exact .inr (List.mem_singleton.mp h)
  | cons p rest ih =>
    obtain ⟨a, b⟩ := p
    rw [tinsert] at h
    split at h
    · rcases List.mem_cons.mp h with rfl | h
      · exact .inr (by rw [‹a = k›])
      · exact .inl (List.mem_cons_of_mem _ h)
    · rcases List.mem_cons.mp h with rfl | h
      · exact .inl List.mem_cons_self
      · exact (ih h).imp (List.mem_cons_of_mem _) id

theorem tinsert_fresh (T : Table) (k v : Bytes) (h : k ∉ T.map (·.1)) : tinsert T k v = T ++ [(k, v)] := by
  induction T with
  | nil => rfl
  | cons p rest ih =>
    obtain ⟨a, b⟩ := p
    simp only [List.map_cons, List.mem_cons, not_or] at h
    have : ¬ a = k := fun e => h.1 e.symm
    simp [tinsert, this, ih h.2]

theorem foldl_tinsert_lookup (ps : List (Bytes × Bytes)) (T : Table) (k : Bytes) :
    (ps.foldl (fun T p => tinsert T p.1 p.2) T).lookup k =
      match ps.reverse.lookup k with
      | some v => some v
      | none => T.lookup k := by
  induction ps generalizing T with
  | nil => simp
  | cons p rest ih =>
    obtain ⟨a, b⟩ := p
    simp only [List.foldl_cons, ih, List.reverse_cons]
    rw [List.lookup_append]
    cases h : rest.reverse.lookup k with
    | some v => simp
    | none =>
      simp only [Option.none_or, lookup_tinsert, lookup_cons_if, List.lookup_nil]
      split <;> rfl

theorem foldl_tinsert_fresh (ps : List (Bytes × Bytes)) (T : Table) (hn : (ps.map (·.1)).Nodup)
    (hf : ∀ k ∈ ps.map (·.1), k ∉ T.map (·.1)) : ps.foldl (fun T p => tinsert T p.1 p.2) T = T ++ ps := by
  induction ps generalizing T with
  | nil => rw [List.foldl_nil, List.append_nil]
  | cons p ps ih =>
    obtain ⟨hp, hn⟩ := List.nodup_cons.mp hn
    have hpT : p.1 ∉ T.map (·.1) := hf p.1 List.mem_cons_self
    rw [List.foldl_cons, tinsert_fresh T p.1 p.2 hpT, ih _ hn, List.append_assoc, List.singleton_append]
    -- the remaining labels are not in the table either: not in `T`, and different from `p`'s
    intro k hk
    rw [List.map_append, List.mem_append, List.map_singleton, List.mem_singleton]
    rintro (h | rfl)
    · exact hf k (List.mem_cons_of_mem _ hk) h
    · exact hp hk

theorem foldl_tinsert_length (ps : List (Bytes × Bytes)) (T : Table) (hn : (ps.map (·.1)).Nodup)
    (hf : ∀ k ∈ ps.map (·.1), k ∉ T.map (·.1)) : (ps.foldl (fun T p => tinsert T p.1 p.2) T).length = T.length + ps.length := by
  rw [foldl_tinsert_fresh ps T hn hf, List.length_append]

theorem mem_foldl_tinsert {ps : List (Bytes × Bytes)} {T : Table} {e : Bytes × Bytes}
    (h : e ∈ ps.foldl (fun T p => tinsert T p.1 p.2) T) : e ∈ T ∨ e ∈ ps := by
  induction ps generalizing T with
  | nil => exact Or.inl h
  | cons p ps ih =>
    rcases ih h with h | h
    · exact (mem_tinsert T _ _ e h).imp id fun he => by rw [he]; exact List.mem_cons_self
    · exact Or.inr (List.mem_cons_of_mem _ h)

theorem tableOfList_eq (ps : List (Bytes × Bytes)) (hn : (ps.map (·.1)).Nodup) : tableOfList ps = ps := by
  rw [tableOfList, foldl_tinsert_fresh ps [] hn (fun _ _ h => nomatch h), List.nil_append]

theorem tableOfList_length (ps : List (Bytes × Bytes)) (hn : (ps.map (·.1)).Nodup) :
    (tableOfList ps).length = ps.length := by rw [tableOfList_eq ps hn]

theorem buildTable_eq_sorted (ps : List (Bytes × Bytes)) (hn : (ps.map (·.1)).Nodup) :
    buildTable ps = ps.mergeSort (fun a b => bytesLe a.1 b.1) :=
  tableOfList_eq _ (((List.mergeSort_perm ps _).map (·.1)).nodup_iff.mpr hn)

theorem buildTable_perm (ps : List (Bytes × Bytes)) (hn : (ps.map (·.1)).Nodup) : (buildTable ps).Perm ps := by
  rw [buildTable_eq_sorted ps hn]; exact List.mergeSort_perm ps _

theorem mem_buildTable (ps : List (Bytes × Bytes)) (e : Bytes × Bytes) (h : e ∈ buildTable ps) : e ∈ ps := by
  unfold buildTable tableOfList at h
  rcases mem_foldl_tinsert h with h | h
  · cases h
  · exact (List.mergeSort_perm ps _).mem_iff.mp h

theorem buildTable_get_of_mem (ps : List (Bytes × Bytes)) (k v : Bytes) (hn : (ps.map (·.1)).Nodup)
    (hm : (k, v) ∈ ps) : (buildTable ps).get k = some v :=
  have hp := buildTable_perm ps hn
  lookup_eq_some_of_mem ((hp.map (·.1)).nodup_iff.mpr hn) (hp.mem_iff.mpr hm)

theorem buildTable_get_none (ps : List (Bytes × Bytes)) (k : Bytes) (h : k ∉ ps.map (·.1)) :
    (buildTable ps).get k = none := by
  refine lookup_eq_none_of_not_mem fun hm => h ?_
  obtain ⟨e, he, rfl⟩ := List.mem_map.mp hm
  exact List.mem_map_of_mem (mem_buildTable ps e he)

theorem buildTable_length (ps : List (Bytes × Bytes)) (hn : (ps.map (·.1)).Nodup) :
    (buildTable ps).length = ps.length := (buildTable_perm ps hn).length_eq

theorem bytesLe_cons_cons (x y : UInt8) (xs ys : Bytes) :
    bytesLe (x :: xs) (y :: ys) = true ↔ x < y ∨ x = y ∧ bytesLe xs ys = true := by
  rw [bytesLe]
  by_cases hxy : x < y
  · simp [hxy]
  · by_cases hyx : y < x
    · have hne : x ≠ y := fun e => hxy (e ▸ hyx)
      simp [hxy, hyx, hne]
    · have he : x = y := UInt8.le_antisymm (UInt8.not_lt.mp hyx) (UInt8.not_lt.mp hxy)
      simp [he]

theorem bytesLe_refl (a : Bytes) : bytesLe a a = true := by
  induction a with
  | nil => rfl
  | cons x xs ih => simp [bytesLe, ih]

theorem bytesLe_total (a b : Bytes) : (bytesLe a b || bytesLe b a) = true := by
  induction a generalizing b with
  | nil => simp [bytesLe]
  | cons x xs ih =>
    cases b with
    | nil => simp [bytesLe]
    | cons y ys =>
      rw [Bool.or_eq_true, bytesLe_cons_cons, bytesLe_cons_cons]
      by_cases hxy : x < y
      · exact .inl (.inl hxy)
      · by_cases hyx : y < x
        · exact .inr (.inl hyx)
        · have he : x = y := UInt8.le_antisymm (UInt8.not_lt.mp hyx) (UInt8.not_lt.mp hxy)
          exact (Bool.or_eq_true _ _ ▸ ih ys).imp (fun h => .inr ⟨he, h⟩) (fun h => .inr ⟨he.symm, h⟩)

theorem bytesLe_antisymm (a b : Bytes) (h1 : bytesLe a b = true) (h2 : bytesLe b a = true) : a = b := by
  induction a generalizing b with
  | nil => cases b with
    | nil => rfl
    | cons y ys => simp [bytesLe] at h2
  | cons x xs ih =>
    cases b with
    | nil => simp [bytesLe] at h1
    | cons y ys =>
      rw [bytesLe_cons_cons] at h1 h2
      rcases h1 with h1 | ⟨rfl, h1⟩
      · rcases h2 with h2 | ⟨rfl, _⟩
        · exact absurd (UInt8.lt_trans h1 h2) (UInt8.lt_irrefl _)
        · exact absurd h1 (UInt8.lt_irrefl _)
      · rcases h2 with h2 | ⟨_, h2⟩
        · exact absurd h2 (UInt8.lt_irrefl _)
        · rw [ih ys h1 h2]

theorem bytesLe_trans (a b c : Bytes) (h1 : bytesLe a b = true) (h2 : bytesLe b c = true) : bytesLe a c = true := by
  induction a generalizing b c with
  | nil => simp [bytesLe]
  | cons x xs ih =>
    cases b with
    | nil => simp [bytesLe] at h1
    | cons y ys =>
      cases c with
      | nil => simp [bytesLe] at h2
      | cons z zs =>
        rw [bytesLe_cons_cons] at h1 h2 ⊢
        rcases h1 with h1 | ⟨rfl, h1⟩
        · rcases h2 with h2 | ⟨rfl, _⟩
          · exact .inl (UInt8.lt_trans h1 h2)
          · exact .inl h1
        · rcases h2 with h2 | ⟨rfl, h2⟩
          · exact .inl h2
          · exact .inr ⟨rfl, ih ys zs h1 h2⟩

theorem buildTable_sorted (ps : List (Bytes × Bytes)) (hn : (ps.map (·.1)).Nodup) :
    ((buildTable ps).map (·.1)).Pairwise (fun a b => bytesLe a b = true) := by
  rw [buildTable_eq_sorted ps hn]
  have h := List.pairwise_mergeSort (le := fun (a b : Bytes × Bytes) => bytesLe a.1 b.1)
    (fun a b c => bytesLe_trans a.1 b.1 c.1) (fun a b => bytesLe_total a.1 b.1) ps
  exact List.pairwise_map.mpr h

theorem buildTable_keys_perm (ps qs : List (Bytes × Bytes)) (hn : (ps.map (·.1)).Nodup)
    (hp : (ps.map (·.1)).Perm (qs.map (·.1))) :
    (buildTable ps).map (·.1) = (buildTable qs).map (·.1) := by
  have hnq : (qs.map (·.1)).Nodup := hp.nodup_iff.mp hn
  apply List.Perm.eq_of_pairwise (le := fun a b => bytesLe a b = true)
  · intro a b _ _ h1 h2; exact bytesLe_antisymm a b h1 h2
  · exact buildTable_sorted ps hn
  · exact buildTable_sorted qs hnq
  · exact ((buildTable_perm ps hn).map (·.1)).trans (hp.trans ((buildTable_perm qs hnq).map (·.1)).symm)

def EntLens (L : List (Bytes × Bytes)) (a b : Nat) : Prop := ∀ e ∈ L, e.1.length = a ∧ e.2.length = b

theorem DB.total_cons (p : Bytes × List Bytes) (db : DB) : DB.total (p :: db) = p.2.length + db.total := by
  simp [DB.total]

theorem DB.total_append (db db' : DB) : DB.total (db ++ db') = db.total + db'.total := by
  simp [DB.total]

theorem DB.length_le_total {db : DB} {p : Bytes × List Bytes} (h : p ∈ db) : p.2.length ≤ db.total := by
  induction db with
  | nil => cases h
  | cons q rest ih =>
    rw [DB.total_cons]
    rcases List.mem_cons.mp h with rfl | h
    · exact Nat.le_add_right _ _
    · exact Nat.le_trans (ih h) (Nat.le_add_left _ _)

theorem DB.total_ne_zero {db : DB} (hne : db ≠ []) (hdb : ∀ p ∈ db, 1 ≤ p.2.length) : db.total ≠ 0 := by
  obtain ⟨q, rest, rfl⟩ := List.exists_cons_of_ne_nil hne
  have h1 := hdb q List.mem_cons_self
  have h2 := DB.length_le_total (db := q :: rest) List.mem_cons_self
  omega

theorem nodup_keys_unique (db : DB) (hkeys : (db.map (·.1)).Nodup) (w : Bytes) (a b : List Bytes)
    (ha : (w, a) ∈ db) (hb : (w, b) ∈ db) : a = b :=
  Option.some.inj ((lookup_eq_some_of_mem hkeys ha).symm.trans (lookup_eq_some_of_mem hkeys hb))

theorem DB.get_of_mem {db : DB} {w : Bytes} {ids : List Bytes} (hkeys : (db.map (·.1)).Nodup) (hm : (w, ids) ∈ db) :
    db.get w = ids := by
  rw [DB.get, lookup_eq_some_of_mem hkeys hm, Option.getD_some]

theorem DB.get_of_not_mem {db : DB} {w : Bytes} (h : w ∉ db.map (·.1)) : db.get w = [] := by
  rw [DB.get, lookup_eq_none_of_not_mem h, Option.getD_none]

theorem DB.get_mem (db : DB) (w : Bytes) : db.get w = [] ∨ (w, db.get w) ∈ db := by
  unfold DB.get
  cases h : db.lookup w with
  | none => exact .inl rfl
  | some ids => exact .inr (mem_of_lookup_eq_some h)

end SSEPy.Sch
