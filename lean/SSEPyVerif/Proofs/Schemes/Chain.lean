/-
  PiBas / PiPack, the counter chain.  `encChunks_inv` and `encDb_inv` say once what the two loops of `_Enc` return: keyword by
  keyword, chunk by chunk, a PRF label and a ciphertext under a draw of the run.  The search specification, the label sequence,
  the shape and the IV prefixes of the index are read off them.
-/
import SSEPyVerif.Proofs.Schemes.Table
import SSEPyVerif.Proofs.Schemes.Tape
import SSEPyVerif.Proofs.Schemes.Cfg
import SSEPyVerif.Model.Schemes.Chain
namespace SSEPy.Sch.Chain

variable (cfg : ChainCfg) (lv : Leaves)

/-- `Decrypts cfg.ske lv` written out; `PiBas.dec_enc` and `PiPack.dec_enc` conclude it and are passed where `Decrypts` is asked -/
def DecEnc : Prop :=
  ∀ key iv msg c, iv.length = 16 → cfg.ske.encrypt lv.E key iv msg = .ok c → cfg.ske.decrypt lv.D key c = .ok msg

/-- pair `i` of `ps` is the label `F(K1, c + i)` with a value that decrypts to chunk `i` -/
inductive ChunkRel (K1 K2 : Bytes) : Nat → List Bytes → List (Bytes × Bytes) → Prop where
  | nil (c : Nat) : ChunkRel K1 K2 c [] []
  | cons (c : Nat) (ch : Bytes) (rest : List Bytes) (l d : Bytes) (ps : List (Bytes × Bytes)) :
      cfg.prfF.call lv.hmac K1 (natToBytesMin c) = .ok l →
      cfg.ske.decrypt lv.D K2 d = .ok ch →
      ChunkRel K1 K2 (c + 1) rest ps → ChunkRel K1 K2 c (ch :: rest) ((l, d) :: ps)

theorem ChunkRel.length {K1 K2 : Bytes} {c : Nat} {chs : List Bytes} {ps : List (Bytes × Bytes)}
    (h : ChunkRel cfg lv K1 K2 c chs ps) : ps.length = chs.length := by
  induction h with
  | nil => rfl
  | cons _ _ _ _ _ _ _ _ _ ih => simp [ih]

/-- during `setup`: chunk `i` went under the label `F(K1, c + i)`, encrypted under a draw of `t` -/
def Chunks (t : Tape) (K1 K2 : Bytes) (c : Nat) (chs : List Bytes) (ps : List (Bytes × Bytes)) : Prop :=
  Forall₂ (fun (ic : Nat × Bytes) p => cfg.prfF.call lv.hmac K1 (natToBytesMin ic.1) = .ok p.1 ∧ Enc cfg.ske lv t K2 ic.2 p.2)
    (enumFrom c chs) ps

variable {cfg lv} in
theorem Chunks.mono {t t' : Tape} {K1 K2 : Bytes} {c : Nat} {chs : List Bytes} {ps : List (Bytes × Bytes)}
    (hs : Suffix t' t) (h : Chunks cfg lv t' K1 K2 c chs ps) : Chunks cfg lv t K1 K2 c chs ps :=
  Forall₂.imp h fun _ _ x => ⟨x.1, x.2.mono hs⟩

variable {cfg lv} in
theorem Chunks.rel (hde : Decrypts cfg.ske lv) {t : Tape} {K1 K2 : Bytes} {c : Nat} {chs : List Bytes} {ps : List (Bytes × Bytes)}
    (h : Chunks cfg lv t K1 K2 c chs ps) : ChunkRel cfg lv K1 K2 c chs ps := by
  induction chs generalizing c ps with
  | nil =>
    cases h
    exact .nil c
  | cons ch rest ih =>
    cases h with
    | cons h1 h2 =>
      exact .cons c ch rest _ _ _ h1.1 (h1.2.dec hde) (ih h2)

variable {cfg lv} in
theorem Chunks.enc_of_mem {t : Tape} {K1 K2 : Bytes} {c : Nat} {chs : List Bytes} {ps : List (Bytes × Bytes)}
    (h : Chunks cfg lv t K1 K2 c chs ps) {p : Bytes × Bytes} (hp : p ∈ ps) : ∃ ch, Enc cfg.ske lv t K2 ch p.2 :=
  let ⟨ic, _, e⟩ := Forall₂.of_mem_right h hp
  ⟨ic.2, e.2⟩

theorem encChunks_inv {K1 K2 : Bytes} {c : Nat} {chs : List Bytes} {t t' : Tape} {ps : List (Bytes × Bytes)}
    (h : encChunks cfg lv K1 K2 c chs t = .ok (ps, t')) :
    Chunks cfg lv t K1 K2 c chs ps ∧ t = (ps.map fun p => Draw.bytes (p.2.take 16)) ++ t' := by
  induction chs generalizing c t ps with
  | nil =>
    simp only [encChunks, ok_inv, Prod.mk.injEq] at h
    obtain ⟨rfl, rfl⟩ := h
    exact ⟨.nil, rfl⟩
  | cons ch rest ih =>
    simp only [encChunks, ok_inv] at h
    obtain ⟨l, hl, ⟨d, t1⟩, hd, ⟨ps', t2⟩, hr, h⟩ := h
    cases h
    obtain ⟨e, s⟩ := skeEncrypt_enc hd
    obtain ⟨i1, i2⟩ := ih hr
    exact ⟨.cons ⟨hl, e⟩ (i1.mono s), by rw [skeEncrypt_tape hd, List.map_cons, List.cons_append, ← i2]⟩

/-- what `encDb` computes for one keyword; `ps`: the pairs of its chain -/
structure Kw where
  K1 : Bytes
  K2 : Bytes
  chs : List Bytes
  ps : List (Bytes × Bytes)

structure KwOK (K : Bytes) (t : Tape) (p : Bytes × List Bytes) (r : Kw) : Prop where
  token : token cfg lv K p.1 = .ok (r.K1, r.K2)
  pack : cfg.pack p.2 = .ok r.chs
  chunks : Chunks cfg lv t r.K1 r.K2 0 r.chs r.ps

variable {cfg lv} in
theorem KwOK.mono {K : Bytes} {t t' : Tape} {p : Bytes × List Bytes} {r : Kw} (hs : Suffix t' t)
    (h : KwOK cfg lv K t' p r) : KwOK cfg lv K t p r :=
  { h with chunks := h.chunks.mono hs }

theorem encDb_inv {K : Bytes} {db : DB} {t t' : Tape} {L : List (Bytes × Bytes)} (h : encDb cfg lv K db t = .ok (L, t')) :
    ∃ recs, Forall₂ (KwOK cfg lv K t) db recs ∧ L = recs.flatMap Kw.ps ∧ Suffix t' t := by
  induction db generalizing t L with
  | nil =>
    simp only [encDb, ok_inv, Prod.mk.injEq] at h
    obtain ⟨rfl, rfl⟩ := h
    exact ⟨[], .nil, rfl, .refl _⟩
  | cons q rest ih =>
    obtain ⟨w, ids⟩ := q
    simp only [encDb, ok_inv] at h
    obtain ⟨⟨K1, K2⟩, htk, chs, hchs, ⟨ps, t1⟩, hps, ⟨qs, t2⟩, hr, h⟩ := h
    cases h
    obtain ⟨c1, c2⟩ := encChunks_inv cfg lv hps
    have s1 : Suffix t1 t := .of_eq c2
    obtain ⟨recs, f, rfl, s2⟩ := ih hr
    have hkw : KwOK cfg lv K t (w, ids) { K1 := K1, K2 := K2, chs := chs, ps := ps } :=
      { token := htk, pack := hchs, chunks := c1 }
    exact ⟨_ :: recs, .cons hkw (f.imp fun _ _ k => k.mono s1), rfl, s2.trans s1⟩

theorem setup_inv {K : Bytes} {db : DB} {t t' : Tape} {D : Table} (h : setup cfg lv K db t = .ok (D, t')) :
    ∃ L, encDb cfg lv K db t = .ok (L, t') ∧ D = buildTable L := by
  simp only [setup, ok_inv] at h
  obtain ⟨⟨L, t1⟩, hr, h⟩ := h
  cases h
  exact ⟨L, hr, rfl⟩

theorem searchLoop_miss (D : Table) {K1 : Bytes} (K2 : Bytes) {c : Nat} {l : Bytes}
    (hl : cfg.prfF.call lv.hmac K1 (natToBytesMin c) = .ok l) (hmiss : D.get l = none) (fuel : Nat) (acc : List Bytes) :
    searchLoop cfg lv D K1 K2 (fuel + 1) c acc = .ok acc := by
  simp only [searchLoop, hl, hmiss, ok_bind, pure_eq]

/-- one round of fuel per chunk and one for the probe that misses -/
theorem searchLoop_rel (D : Table) {K1 K2 : Bytes} {c : Nat} {chs : List Bytes} {ps : List (Bytes × Bytes)}
    (hrel : ChunkRel cfg lv K1 K2 c chs ps)
    (hget : ∀ p ∈ ps, D.get p.1 = some p.2)
    {lend : Bytes} (hend : cfg.prfF.call lv.hmac K1 (natToBytesMin (c + chs.length)) = .ok lend)
    (hmiss : D.get lend = none)
    {parts : List (List Bytes)} (hparts : mapE cfg.unpack chs = .ok parts)
    (fuel : Nat) (hf : chs.length ≤ fuel) (acc : List Bytes) :
    searchLoop cfg lv D K1 K2 (fuel + 1) c acc = .ok (acc ++ parts.flatten) := by
  induction hrel generalizing fuel acc parts with
  | nil c =>
    cases hparts
    rw [List.length_nil, Nat.add_zero] at hend
    rw [searchLoop_miss cfg lv D K2 hend hmiss, List.flatten_nil, List.append_nil]
  | cons c ch rest l d ps' hl hd _ ih =>
    cases fuel with
    | zero => exact absurd hf (Nat.not_succ_le_zero _)
    | succ f =>
      obtain ⟨ids, hids, parts', hp', rfl⟩ := mapE_cons_eq_ok.mp hparts
      have hg : D.get l = some d := hget (l, d) List.mem_cons_self
      rw [searchLoop]
      simp only [hl, hg, hd, hids, ok_bind]
      have hend' : cfg.prfF.call lv.hmac K1 (natToBytesMin (c + 1 + rest.length)) = .ok lend := by
        rwa [List.length_cons, ← Nat.add_assoc, Nat.add_right_comm] at hend
      have hget' : ∀ p ∈ ps', D.get p.1 = some p.2 := fun p hp => hget p (List.mem_cons_of_mem _ hp)
      rw [ih hget' hend' hp' f (Nat.le_of_succ_le_succ hf), List.flatten_cons, List.append_assoc]

/-- the fuel `|table| + 1` suffices because every chunk has its pair in the table -/
theorem searchLoop_table (hde : Decrypts cfg.ske lv) {L : List (Bytes × Bytes)} (hn : (L.map (·.1)).Nodup) {t : Tape}
    {K1 K2 : Bytes} {chs : List Bytes} {ps : List (Bytes × Bytes)} (hch : Chunks cfg lv t K1 K2 0 chs ps) (hsub : ps.Sublist L)
    {lend : Bytes} (hend : cfg.prfF.call lv.hmac K1 (natToBytesMin chs.length) = .ok lend) (hfresh : lend ∉ L.map (·.1))
    {parts : List (List Bytes)} (hparts : mapE cfg.unpack chs = .ok parts) :
    searchLoop cfg lv (buildTable L) K1 K2 (searchFuel (buildTable L)) 0 [] = .ok parts.flatten := by
  have hrel := hch.rel hde
  have hlen : chs.length ≤ (buildTable L).length := by
    rw [buildTable_length L hn, ← hrel.length]
    exact hsub.length_le
  have hget : ∀ p ∈ ps, (buildTable L).get p.1 = some p.2 := fun p hp =>
    buildTable_get_of_mem L p.1 p.2 hn (hsub.subset hp)
  have hend0 : cfg.prfF.call lv.hmac K1 (natToBytesMin (0 + chs.length)) = .ok lend := by rwa [Nat.zero_add]
  have hmiss : (buildTable L).get lend = none := buildTable_get_none L lend hfresh
  -- `searchFuel D` is `|D| + 1` by unfolding
  exact searchLoop_rel cfg lv (buildTable L) hrel hget hend0 hmiss hparts (buildTable L).length hlen []

/-- the chunks the list `ids` is packed into unpack to parts that, put end to end, are `ids` again -/
def RoundTrip (ids : List Bytes) : Prop :=
  ∀ chs, cfg.pack ids = .ok chs → ∃ parts, mapE cfg.unpack chs = .ok parts ∧ parts.flatten = ids

/-- the label one past the last chunk of keyword `w` is not a stored label (so the probe loop stops there) -/
def EndFresh (K : Bytes) (L : List (Bytes × Bytes)) (w : Bytes) (ids : List Bytes) : Prop :=
  ∀ K1 K2 chs, token cfg lv K w = .ok (K1, K2) → cfg.pack ids = .ok chs →
    ∃ l, cfg.prfF.call lv.hmac K1 (natToBytesMin chs.length) = .ok l ∧ l ∉ L.map (·.1)

/-- stated on `encDb`, one level below `setup` (the C01 theorems apply `setup_inv` first), so that the hypotheses speak of
    the run's pair list `L`, which `setup` does not return; PiPtr and Pi2Lev state theirs in the same way -/
theorem search_present (hde : Decrypts cfg.ske lv) {K : Bytes} {db : DB} {t t' : Tape} {L : List (Bytes × Bytes)}
    (hL : encDb cfg lv K db t = .ok (L, t')) (hn : (L.map (·.1)).Nodup)
    {w : Bytes} {ids : List Bytes} (hm : (w, ids) ∈ db)
    (hrt : RoundTrip cfg ids) (hend : EndFresh cfg lv K L w ids) :
    ∃ tk, token cfg lv K w = .ok tk ∧ search cfg lv (buildTable L) tk = .ok ids := by
  obtain ⟨recs, f, rfl, _⟩ := encDb_inv cfg lv hL
  obtain ⟨r, hr, k⟩ := f.of_mem_left hm
  obtain ⟨parts, hparts, hids⟩ := hrt r.chs k.pack
  obtain ⟨lend, hlend, hfresh⟩ := hend r.K1 r.K2 r.chs k.token k.pack
  have hsub : r.ps.Sublist (recs.flatMap Kw.ps) := by
    rw [List.flatMap_def]
    exact List.sublist_flatten_of_mem (List.mem_map_of_mem hr)
  refine ⟨(r.K1, r.K2), k.token, ?_⟩
  rw [search, searchLoop_table cfg lv hde hn k.chunks hsub hlend hfresh hparts, hids]

/-- the labels `F(K1, c), F(K1, c+1), …` of `n` consecutive probes (`[]` in place of a label the PRF refuses to compute) -/
def probeLabels (K1 : Bytes) (c : Nat) : Nat → List Bytes
  | 0 => []
  | n + 1 => (match cfg.prfF.call lv.hmac K1 (natToBytesMin c) with | .ok l => l | .error _ => []) ::
             probeLabels K1 (c + 1) n

variable {cfg lv} in
theorem Chunks.labels {t : Tape} {K1 K2 : Bytes} {c : Nat} {chs : List Bytes} {ps : List (Bytes × Bytes)}
    (h : Chunks cfg lv t K1 K2 c chs ps) : ps.map (·.1) = probeLabels cfg lv K1 c chs.length := by
  induction chs generalizing c ps with
  | nil => cases h; rfl
  | cons ch rest ih =>
    cases h with
    | cons h1 h2 => simp only [List.map_cons, List.length_cons, probeLabels, h1.1, ih h2]

/-- the labels of one keyword: a function of the key, the keyword and the number of chunks only (none if the token or the
    packing fails, which under an `encDb` that returned they do not) -/
def kwLabels (K : Bytes) (p : Bytes × List Bytes) : List Bytes :=
  match token cfg lv K p.1, cfg.pack p.2 with
  | .ok (K1, _), .ok chs => probeLabels cfg lv K1 0 chs.length
  | _, _ => []

theorem encDb_labels {K : Bytes} {db : DB} {t t' : Tape} {L : List (Bytes × Bytes)}
    (h : encDb cfg lv K db t = .ok (L, t')) : L.map (·.1) = db.flatMap (kwLabels cfg lv K) := by
  obtain ⟨recs, f, rfl, _⟩ := encDb_inv cfg lv h
  have hkw : db.map (kwLabels cfg lv K) = recs.map fun r => r.ps.map (·.1) := f.map_eq fun p r k => by
    simp only [kwLabels, k.token, k.pack, k.chunks.labels]
  rw [List.map_flatMap, List.flatMap_def, List.flatMap_def, hkw]

theorem labels_perm {K : Bytes} {db db' : DB} (hp : db.Perm db') {t t1 u u1 : Tape} {L L' : List (Bytes × Bytes)}
    (h : encDb cfg lv K db t = .ok (L, t1)) (h' : encDb cfg lv K db' u = .ok (L', u1)) :
    (L.map (·.1)).Perm (L'.map (·.1)) := by
  rw [encDb_labels cfg lv h, encDb_labels cfg lv h']
  exact hp.flatMap_right _

variable {cfg lv} in
theorem Chunks.lens (hl : LeafLaws lv) (hh : cfg.prfF.hashLen = 20) {t : Tape} {K1 K2 : Bytes} {c : Nat} {chs : List Bytes}
    {ps : List (Bytes × Bytes)} (h : Chunks cfg lv t K1 K2 c chs ps) :
    ps.map (fun p => (p.1.length, p.2.length)) =
      chs.map (fun ch => (cfg.prfF.outputLength.toNat, 16 + 16 * (ch.length / 16 + 1))) := by
  induction chs generalizing c ps with
  | nil => cases h; rfl
  | cons ch rest ih =>
    cases h with
    | cons h1 h2 => simp only [List.map_cons, prf_len hl.hmac_len hh h1.1, h1.2.length hl.enc_len, ih h2]

/-- the (label length, value length) pairs one keyword contributes -/
def kwLens (p : Bytes × List Bytes) : List (Nat × Nat) :=
  match cfg.pack p.2 with
  | .ok chs => chs.map fun ch => (cfg.prfF.outputLength.toNat, 16 + 16 * (ch.length / 16 + 1))
  | .error _ => []

theorem encDb_shape (hl : LeafLaws lv) (hh : cfg.prfF.hashLen = 20) {K : Bytes} {db : DB} {t t' : Tape}
    {L : List (Bytes × Bytes)} (h : encDb cfg lv K db t = .ok (L, t')) :
    L.map (fun p => (p.1.length, p.2.length)) = db.flatMap (kwLens cfg) := by
  obtain ⟨recs, f, rfl, _⟩ := encDb_inv cfg lv h
  have hkw : db.map (kwLens cfg) = recs.map fun r => r.ps.map fun p => (p.1.length, p.2.length) :=
    f.map_eq fun p r k => by simp only [kwLens, k.pack, k.chunks.lens hl hh]
  rw [List.map_flatMap, List.flatMap_def, List.flatMap_def, hkw]

/-- `n p` chunks of `m` bytes each — PiBas: `|list|` of the identifiers' common length; PiPack: `⌈|list| / B⌉` of `B·sz` -/
theorem flatMap_kwLens (db : DB) (n : Bytes × List Bytes → Nat) (m : Nat)
    (h : ∀ p ∈ db, ∃ chs, cfg.pack p.2 = .ok chs ∧ chs.length = n p ∧ ∀ ch ∈ chs, ch.length = m) :
    db.flatMap (kwLens cfg) = List.replicate (db.map n).sum (cfg.prfF.outputLength.toNat, 16 + 16 * (m / 16 + 1)) := by
  rw [← flatMap_replicate, List.flatMap_def, List.flatMap_def]
  congr 1
  refine List.map_congr_left fun p hp => ?_
  obtain ⟨chs, hpack, hlen, hm⟩ := h p hp
  simp only [kwLens, hpack, ← hlen]
  refine List.eq_replicate_iff.mpr ⟨List.length_map _, fun x hx => ?_⟩
  obtain ⟨ch, hch, rfl⟩ := List.mem_map.mp hx
  rw [hm ch hch]

end SSEPy.Sch.Chain

namespace SSEPy.Sch
open SSEPy.Sch.Chain

structure PiBas.Parsed (raw : RawCfg) (cfg : ChainCfg) (out : Int) : Prop where
  getLambda : getInt raw "param_lambda" = .ok cfg.lambda
  getOut : getInt raw "prf_f_output_length" = .ok out
  ske : AESxCBC.new cfg.lambda = .ok cfg.ske
  prfF : cfg.prfF = HmacPRF.new out cfg.lambda LENGTH_UNLIMITED 20
  pack : cfg.pack = fun ids => .ok ids
  unpack : cfg.unpack = fun p => .ok [p]

theorem PiBas.cfgBuild_inv {raw : RawCfg} {cfg : ChainCfg} (h : PiBas.cfgBuild raw = .ok cfg) :
    ∃ out, PiBas.Parsed raw cfg out := by
  simp only [PiBas.cfgBuild, ok_inv] at h
  obtain ⟨_, _, _, _, lam, hlam, out, hout, _, _, ske, hske, h⟩ := h
  subst h
  exact ⟨out, { getLambda := hlam, getOut := hout, ske := hske, prfF := rfl, pack := rfl, unpack := rfl }⟩

/-- `0 < B` and `0 < sz`, the two sizes the packer divides by, are what the two checks every builder opens with give -/
structure PiPack.Parsed (raw : RawCfg) (cfg : ChainCfg) (B sz out : Int) : Prop where
  getLambda : getInt raw "param_lambda" = .ok cfg.lambda
  getB : getInt raw "param_B" = .ok B
  Bpos : 0 < B
  getOut : getInt raw "prf_f_output_length" = .ok out
  getIdSize : getInt raw "param_identifier_size" = .ok sz
  idPos : 0 < sz
  ske : AESxCBC.new cfg.lambda = .ok cfg.ske
  prfF : cfg.prfF = HmacPRF.new out cfg.lambda LENGTH_UNLIMITED 20
  pack : cfg.pack = fun l => partitionBlocks l B sz
  unpack : cfg.unpack = fun p => parseBySize p sz

theorem PiPack.cfgBuild_inv {raw : RawCfg} {cfg : ChainCfg} (h : PiPack.cfgBuild raw = .ok cfg) :
    ∃ B sz out, PiPack.Parsed raw cfg B sz out := by
  simp only [PiPack.cfgBuild, ok_inv] at h
  obtain ⟨_, hpos, _, hex, lam, hlam, B, hB, out, hout, sz, hsz, _, _, ske, hske, h⟩ := h
  subst h
  have pos := fun f z => param_pos _ raw f z hpos hex
  have hBpos : 0 < B := pos "param_B" B (by decide +kernel) (by simp) hB
  have hszpos : 0 < sz := pos "param_identifier_size" sz (by decide +kernel) (by simp) hsz
  exact ⟨B, sz, out,
    { getLambda := hlam, getB := hB, Bpos := hBpos, getOut := hout, getIdSize := hsz, idPos := hszpos, ske := hske,
      prfF := rfl, pack := rfl, unpack := rfl }⟩

theorem PiBas.dec_enc (raw : RawCfg) (cfg : ChainCfg) (h : PiBas.cfgBuild raw = .ok cfg) (lv : Leaves)
    (hl : LeafLaws lv) : DecEnc cfg lv := by
  obtain ⟨out, p⟩ := PiBas.cfgBuild_inv h
  exact hl.decrypts (new_plain _ _ p.ske).1

theorem PiPack.dec_enc (raw : RawCfg) (cfg : ChainCfg) (h : PiPack.cfgBuild raw = .ok cfg) (lv : Leaves)
    (hl : LeafLaws lv) : DecEnc cfg lv := by
  obtain ⟨B, sz, out, p⟩ := PiPack.cfgBuild_inv h
  exact hl.decrypts (new_plain _ _ p.ske).1

theorem PiBas.cfgBuild_hashLen {raw : RawCfg} {cfg : ChainCfg} (h : PiBas.cfgBuild raw = .ok cfg) : cfg.prfF.hashLen = 20 := by
  obtain ⟨out, p⟩ := PiBas.cfgBuild_inv h
  rw [p.prfF]
  rfl

theorem PiPack.cfgBuild_hashLen {raw : RawCfg} {cfg : ChainCfg} (h : PiPack.cfgBuild raw = .ok cfg) : cfg.prfF.hashLen = 20 := by
  obtain ⟨B, sz, out, p⟩ := PiPack.cfgBuild_inv h
  rw [p.prfF]
  rfl

/-- `huse`: the PRF accepts `K1` as a key, as every successful search requires, so `K1` has `λ` bytes; `K2` is an output of
    the same PRF. -/
theorem PiBas.token_lens {raw : RawCfg} {cfg : ChainCfg} (h : PiBas.cfgBuild raw = .ok cfg) {lv : Leaves} (hH : HmacLen lv)
    {K w K1 K2 l0 : Bytes} (htk : token cfg lv K w = .ok (K1, K2))
    (huse : cfg.prfF.call lv.hmac K1 (natToBytesMin 0) = .ok l0) :
    K1.length = cfg.lambda.toNat ∧ K2.length = cfg.lambda.toNat := by
  obtain ⟨out, p⟩ := PiBas.cfgBuild_inv h
  obtain ⟨h1, h2⟩ := token_inv hH (PiBas.cfgBuild_hashLen h) htk
  have hk1 : cfg.prfF.keyLength = -1 ∨ (K1.length : Int) = cfg.prfF.keyLength := prf_key huse
  have hkey : cfg.prfF.keyLength = cfg.lambda := by
    rw [p.prfF]
    rfl
  have hlam := new_keyLength _ _ p.ske
  have hK1 : K1.length = cfg.lambda.toNat := by
    rw [hkey] at hk1
    omega
  exact ⟨hK1, by rw [h2, ← h1, hK1]⟩

theorem PiBas.pack_eq {raw : RawCfg} {cfg : ChainCfg} (h : PiBas.cfgBuild raw = .ok cfg) (ids : List Bytes) :
    cfg.pack ids = .ok ids := by
  obtain ⟨out, p⟩ := PiBas.cfgBuild_inv h
  rw [p.pack]

theorem PiPack.pack_returns {raw : RawCfg} {cfg : ChainCfg} (h : PiPack.cfgBuild raw = .ok cfg) {B sz : Int}
    (hB : getInt raw "param_B" = .ok B) (hsz : getInt raw "param_identifier_size" = .ok sz) (ids : List Bytes) :
    ∃ chs, cfg.pack ids = .ok chs ∧ chs.length = ceilDiv ids.length B.toNat ∧
      ((∀ id ∈ ids, id.length = sz.toNat) → ∀ ch ∈ chs, ch.length = B.toNat * sz.toNat) := by
  obtain ⟨B', sz', out, p⟩ := PiPack.cfgBuild_inv h
  cases hB.symm.trans p.getB
  cases hsz.symm.trans p.getIdSize
  obtain ⟨chs, hchs⟩ := partitionBlocks_returns ids p.Bpos (Int.le_of_lt p.idPos) (Or.inl rfl)
  rw [p.pack]
  exact ⟨chs, hchs, partitionBlocks_inv_default hchs p.Bpos (Int.le_of_lt p.idPos)⟩

theorem PiBas.roundTrip {raw : RawCfg} {cfg : ChainCfg} (h : PiBas.cfgBuild raw = .ok cfg) (ids : List Bytes) :
    RoundTrip cfg ids := by
  obtain ⟨out, p⟩ := PiBas.cfgBuild_inv h
  intro chs hp
  rw [PiBas.pack_eq h] at hp
  cases hp
  rw [p.unpack]
  exact ⟨_, mapE_total _ (fun p => [p]) (fun _ => rfl) ids, List.flatMap_singleton' ids⟩

/-- identifiers valid for a PiPack configuration: exactly `param_identifier_size` bytes, not all zero -/
def ValidIdsFor (raw : RawCfg) (ids : List Bytes) : Prop :=
  ∀ sz, getInt raw "param_identifier_size" = .ok sz → C17.ValidIds ids sz.toNat

theorem PiPack.roundTrip {raw : RawCfg} {cfg : ChainCfg} (h : PiPack.cfgBuild raw = .ok cfg) {ids : List Bytes}
    (hv : ValidIdsFor raw ids) : RoundTrip cfg ids := by
  obtain ⟨B, sz, out, p⟩ := PiPack.cfgBuild_inv h
  intro chs hp
  rw [p.pack] at hp
  rw [p.unpack]
  exact blocks_roundtrip p.Bpos p.idPos (hv sz p.getIdSize) hp

end SSEPy.Sch
