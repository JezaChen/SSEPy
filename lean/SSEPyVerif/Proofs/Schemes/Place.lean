/-
  The array of PiPtr and Pi2Lev: `placeG`, the one function both schemes' `placeBlocks` are, and `Wrote`, what a placement,
  a keyword or a whole run did to the array and the free list.
-/
import SSEPyVerif.Proofs.Schemes.Tape
namespace SSEPy.Sch

namespace PiPtr

/-- ciphertext length of an `m`-byte plaintext: the IV, and the plaintext padded to the next multiple of 16 -/
def clen (m : Nat) : Nat := 16 + 16 * (m / 16 + 1)

/-- slot `i` of the array holds a block -/
def Occupied (A : List (Option Bytes)) (i : Nat) : Prop := ∃ d, A[i]? = some (some d)

end PiPtr

theorem Enc.length_clen {ske : AESxCBC} {lv : Leaves} {t : Tape} {key msg c : Bytes} (hE : BlockLen lv)
    (h : Enc ske lv t key msg c) : c.length = PiPtr.clen msg.length :=
  h.length hE

/-- the search theorems ask that no block is at slot 0: the pointers are then not all zero, entries the packer accepts -/
theorem ptr_valid {pos idx : Nat} {ptr : Bytes} (h : intToBytesNat pos idx = .ok ptr) :
    intFromBytes ptr = pos ∧ ptr.length = idx ∧ (0 < pos → allZero ptr = false) := by
  obtain ⟨hv, hl⟩ := C17.int_roundtrip pos idx ptr h
  refine ⟨hv, hl, fun hpos => ?_⟩
  cases hz : allZero ptr with
  | false => rfl
  | true =>
    have := (allZero_iff ptr).mp hz
    rw [this, intFromBytes_eq, fromBE_zeros] at hv
    omega

theorem ptr_valid_int {pos : Nat} {ptr : Bytes} {idx : Int} (hidx : 0 ≤ idx) (h : intToBytes (pos : Int) idx = .ok ptr) :
    intFromBytes ptr = pos ∧ ptr.length = idx.toNat ∧ (0 < pos → allZero ptr = false) := by
  have e : idx = ((idx.toNat : Nat) : Int) := by omega
  rw [e, intToBytes_natCast] at h
  exact ptr_valid h

theorem validIds_width_pos {l : List Bytes} {n : Nat} (hv : C17.ValidIds l n) (hne : l ≠ []) : 0 < n := by
  obtain ⟨p, hp⟩ := List.exists_mem_of_ne_nil l hne
  obtain ⟨hl, hz⟩ := hv p hp
  rw [← hl]
  exact List.length_pos_iff.mpr fun e => by rw [e] at hz; cases hz

/-- the array after the cells `pds` (slot, content) were written, in order -/
def writeAll (A : List (Option Bytes)) (pds : List (Nat × Bytes)) : List (Option Bytes) :=
  pds.foldl (fun A pd => A.set pd.1 (some pd.2)) A

theorem writeAll_cons (A : List (Option Bytes)) (pd : Nat × Bytes) (pds : List (Nat × Bytes)) :
    writeAll A (pd :: pds) = writeAll (A.set pd.1 (some pd.2)) pds := rfl

theorem writeAll_append (A : List (Option Bytes)) (pds qds : List (Nat × Bytes)) :
    writeAll A (pds ++ qds) = writeAll (writeAll A pds) qds := List.foldl_append ..

theorem writeAll_length (A : List (Option Bytes)) (pds : List (Nat × Bytes)) : (writeAll A pds).length = A.length := by
  induction pds generalizing A with
  | nil => rfl
  | cons pd pds ih => rw [writeAll_cons, ih, List.length_set]

theorem getElem?_writeAll_of_not_mem {A : List (Option Bytes)} {pds : List (Nat × Bytes)} {i : Nat}
    (h : i ∉ pds.map (·.1)) : (writeAll A pds)[i]? = A[i]? := by
  induction pds generalizing A with
  | nil => rfl
  | cons pd pds ih =>
    simp only [List.map_cons, List.mem_cons, not_or] at h
    rw [writeAll_cons, ih h.2, List.getElem?_set_ne (fun e => h.1 e.symm)]

theorem mem_writeAll {A : List (Option Bytes)} {pds : List (Nat × Bytes)} {c : Bytes} (h : some c ∈ writeAll A pds) :
    some c ∈ A ∨ c ∈ pds.map (·.2) := by
  induction pds generalizing A with
  | nil => exact Or.inl h
  | cons pd pds ih =>
    rcases ih h with hm | hm
    · rcases List.mem_or_eq_of_mem_set hm with hm | he
      · exact Or.inl hm
      · cases he; exact Or.inr List.mem_cons_self
    · exact Or.inr (List.mem_cons_of_mem _ hm)

theorem occupied_writeAll {A : List (Option Bytes)} {pds : List (Nat × Bytes)} (hb : ∀ p ∈ pds, p.1 < A.length) (i : Nat) :
    PiPtr.Occupied (writeAll A pds) i ↔ PiPtr.Occupied A i ∨ i ∈ pds.map (·.1) := by
  induction pds generalizing A with
  | nil => simp [writeAll]
  | cons pd pds ih =>
    have hset : PiPtr.Occupied (A.set pd.1 (some pd.2)) i ↔ PiPtr.Occupied A i ∨ i = pd.1 := by
      unfold PiPtr.Occupied
      by_cases h : i = pd.1
      · subst h; simp [List.getElem?_set_self (hb pd List.mem_cons_self)]
      · rw [List.getElem?_set_ne (fun e => h e.symm)]; simp [h]
    have hb' : ∀ p ∈ pds, p.1 < (A.set pd.1 (some pd.2)).length := fun p hp => by
      rw [List.length_set]
      exact hb p (List.mem_cons_of_mem _ hp)
    rw [writeAll_cons, ih hb', hset, List.map_cons, List.mem_cons, or_assoc]

theorem getElem?_writeAll_of_mem {A : List (Option Bytes)} {pds : List (Nat × Bytes)} (hn : (pds.map (·.1)).Nodup)
    (hb : ∀ p ∈ pds, p.1 < A.length) {pd : Nat × Bytes} (hm : pd ∈ pds) : (writeAll A pds)[pd.1]? = some (some pd.2) := by
  induction pds generalizing A with
  | nil => cases hm
  | cons q pds ih =>
    simp only [List.map_cons, List.nodup_cons] at hn
    rcases List.mem_cons.mp hm with rfl | hm
    · rw [writeAll_cons, getElem?_writeAll_of_not_mem hn.1, List.getElem?_set_self (hb pd List.mem_cons_self)]
    · have hb' : ∀ p ∈ pds, p.1 < (A.set q.1 (some q.2)).length := fun p hp => by
        rw [List.length_set]
        exact hb p (List.mem_cons_of_mem _ hp)
      exact ih hn.2 hb' hm

/-- the free list went from `avail` to `avail'` and the array from `A` to `A'` by writing the cells `pds`, in that order;
    a slot is taken with `pop()`, from the end of the free list, so the slots written are the reversed tail of `avail` -/
structure Wrote (A : List (Option Bytes)) (avail avail' : List Nat) (A' : List (Option Bytes)) (pds : List (Nat × Bytes)) : Prop where
  avail_eq : avail = avail' ++ (pds.map (·.1)).reverse
  cells_eq : A' = writeAll A pds
  bound : ∀ p ∈ pds, p.1 < A.length

namespace Wrote
variable {A A1 A2 : List (Option Bytes)} {avail avail1 avail2 : List Nat} {pds qds : List (Nat × Bytes)}

theorem refl (A : List (Option Bytes)) (avail : List Nat) : Wrote A avail avail A [] :=
  { avail_eq := (List.append_nil avail).symm
    cells_eq := rfl
    bound := fun _ h => by cases h }

theorem trans (h1 : Wrote A avail avail1 A1 pds) (h2 : Wrote A1 avail1 avail2 A2 qds) : Wrote A avail avail2 A2 (pds ++ qds) := by
  have havail : avail = avail2 ++ ((pds ++ qds).map (·.1)).reverse := by
    rw [h1.avail_eq, h2.avail_eq, List.map_append, List.reverse_append, List.append_assoc]
  have hcells : A2 = writeAll A (pds ++ qds) := by rw [h2.cells_eq, h1.cells_eq, writeAll_append]
  refine { avail_eq := havail, cells_eq := hcells, bound := fun p hp => ?_ }
  rcases List.mem_append.mp hp with hp | hp
  · exact h1.bound p hp
  · have := h2.bound p hp
    rwa [h1.cells_eq, writeAll_length] at this

theorem cons {pos : Nat} {d : Bytes} (hlt : pos < A.length) (h : Wrote (A.set pos (some d)) avail avail1 A1 pds) :
    Wrote A (avail ++ [pos]) avail1 A1 ((pos, d) :: pds) := by
  have havail : avail ++ [pos] = avail1 ++ (((pos, d) :: pds).map (·.1)).reverse := by
    rw [h.avail_eq, List.map_cons, List.reverse_cons, List.append_assoc]
  refine { avail_eq := havail, cells_eq := h.cells_eq, bound := fun q hq => ?_ }
  rcases List.mem_cons.mp hq with rfl | hq
  · exact hlt
  · exact List.length_set ▸ h.bound q hq

theorem length (h : Wrote A avail avail1 A1 pds) : A1.length = A.length := by rw [h.cells_eq, writeAll_length]

theorem occupied (h : Wrote A avail avail1 A1 pds) (i : Nat) :
    PiPtr.Occupied A1 i ↔ PiPtr.Occupied A i ∨ i ∈ pds.map (·.1) := by
  rw [h.cells_eq, occupied_writeAll h.bound]

theorem reverse_avail (h : Wrote A avail avail1 A1 pds) : avail.reverse = pds.map (·.1) ++ avail1.reverse := by
  rw [h.avail_eq, List.reverse_append, List.reverse_reverse]

theorem occupied_empty {n : Nat} (h : Wrote (List.replicate n none) avail avail1 A1 pds) (i : Nat) :
    PiPtr.Occupied A1 i ↔ i ∈ avail.drop (avail.length - pds.length) := by
  have htail : avail.drop (avail.length - pds.length) = (pds.map (·.1)).reverse := by
    rw [h.avail_eq]
    exact List.drop_left' (by simp)
  rw [htail, h.occupied, List.mem_reverse]
  refine or_iff_right ?_
  rintro ⟨d, hd⟩
  rw [List.getElem?_replicate] at hd
  split at hd
  · cases hd
  · cases hd

theorem length_avail (h : Wrote A avail avail1 A1 pds) : avail.length = avail1.length + pds.length := by
  rw [h.avail_eq]; simp

theorem free_room (h : Wrote A avail avail1 A1 pds) {n : Nat} (hav : pds.length + n ≤ avail.length) : n ≤ avail1.length := by
  rw [h.length_avail, Nat.add_comm avail1.length] at hav
  exact Nat.le_of_add_le_add_left hav

/-- `P`: the slot number fits the pointer width -/
theorem free_bound (h : Wrote A avail avail1 A1 pds) {P : Nat → Prop} (hp : ∀ p ∈ avail, p < A.length ∧ P p) :
    ∀ p ∈ avail1, p < A1.length ∧ P p := fun p hp' => by
  rw [h.length]
  exact hp p (h.avail_eq ▸ List.mem_append_left _ hp')

theorem slot_mem_avail (h : Wrote A avail avail1 A1 pds) {pd : Nat × Bytes} (hm : pd ∈ pds) : pd.1 ∈ avail := by
  rw [h.avail_eq]
  exact List.mem_append_right _ (List.mem_reverse.mpr (List.mem_map_of_mem hm))

theorem cell_mem (h : Wrote A avail avail1 A1 pds) {c : Bytes} (hc : some c ∈ A1) : some c ∈ A ∨ c ∈ pds.map (·.2) :=
  mem_writeAll (h.cells_eq ▸ hc)

theorem cell_of_empty {n : Nat} (h : Wrote (List.replicate n none) avail avail1 A1 pds) {c : Bytes} (hc : some c ∈ A1) :
    ∃ pd ∈ pds, pd.2 = c := by
  rcases h.cell_mem hc with hm | hm
  · cases (List.mem_replicate.mp hm).2
  · obtain ⟨pd, hpd, e⟩ := List.mem_map.mp hm
    exact ⟨pd, hpd, e⟩

/-- the free list has no duplicates, so no slot was popped twice -/
theorem holds (h : Wrote A avail avail1 A1 pds) (hn : avail.Nodup) {pd : Nat × Bytes} (hm : pd ∈ pds) :
    A1[pd.1]? = some (some pd.2) := by
  rw [h.avail_eq] at hn
  have hslots : (pds.map (·.1)).Nodup := (List.reverse_perm _).nodup_iff.mp (List.nodup_append.mp hn).2.1
  rw [h.cells_eq]
  exact getElem?_writeAll_of_mem hslots h.bound hm

end Wrote

/-- `placeBlocks` of PiPtr and of Pi2Lev: pop a slot, write its number with `enc`, encrypt the block, store it -/
def placeG (ske : AESxCBC) (lv : Leaves) (enc : Nat → Except Err Bytes) (key : Bytes) :
    List Bytes → List Nat → List (Option Bytes) → Tape → Except Err (List Bytes × List Nat × List (Option Bytes) × Tape)
  | [], avail, A, t => .ok ([], avail, A, t)
  | m :: ms, avail, A, t =>
    match avail.getLast? with
    | none => .error .indexError
    | some pos => do
      let ptr ← enc pos
      let (d, t1) ← skeEncrypt ske lv key m t
      if pos ≥ A.length then throw .indexError
      let (ptrs, avail', A', t2) ← placeG ske lv enc key ms avail.dropLast (A.set pos (some d)) t1
      pure (ptr :: ptrs, avail', A', t2)

/-- the free list `setup` starts from: its slots are in the array and have a pointer, what the two `encDb_onlyMiss` ask -/
theorem sample_fits {n w : Nat} (hwidth : n ≤ 256 ^ w) {sample : List Nat} (hlt : ∀ p ∈ sample, p < n) :
    ∀ p ∈ sample, p < (List.replicate n (none : Option Bytes)).length ∧ p < 256 ^ w := by
  intro p hp
  rw [List.length_replicate]
  exact ⟨hlt p hp, Nat.lt_of_lt_of_le (hlt p hp) hwidth⟩

variable {ske : AESxCBC} {lv : Leaves} {enc : Nat → Except Err Bytes} {key : Bytes}

theorem placeG_inv {ms : List Bytes} {avail : List Nat} {A : List (Option Bytes)} {t : Tape} {ptrs : List Bytes} {avail' : List Nat}
    {A' : List (Option Bytes)} {t' : Tape} (h : placeG ske lv enc key ms avail A t = .ok (ptrs, avail', A', t')) :
    ∃ pds, Wrote A avail avail' A' pds ∧ Forall₂ (fun m pd => Enc ske lv t key m pd.2) ms pds ∧
      Forall₂ (fun pd ptr => enc pd.1 = .ok ptr) pds ptrs ∧ Suffix t' t := by
  induction ms generalizing avail A t ptrs with
  | nil =>
    simp only [placeG, ok_inv, Prod.mk.injEq] at h
    obtain ⟨rfl, rfl, rfl, rfl⟩ := h
    exact ⟨[], .refl _ _, .nil, .nil, .refl _⟩
  | cons m ms ih =>
    unfold placeG at h
    split at h
    · cases h
    · rename_i pos hpos
      simp only [ok_inv] at h
      obtain ⟨ptr, hptr, ⟨d, t1⟩, hd, hlt, ⟨ptrs', _, _, _⟩, hr, h⟩ := h
      cases h
      obtain ⟨e1, s1⟩ := skeEncrypt_enc hd
      obtain ⟨front, rfl⟩ := List.getLast?_eq_some_iff.mp hpos
      rw [List.dropLast_concat] at hr
      obtain ⟨pds, w, e, p, s⟩ := ih hr
      exact ⟨(pos, d) :: pds, w.cons (Nat.lt_of_not_le hlt), .cons e1 (e.imp fun _ _ x => x.mono s1), .cons hptr p,
        s.trans s1⟩

theorem placeG_onlyMiss (hp : PlainSke ske) (hk : (key.length : Int) = ske.keyLength) (ms : List Bytes) (avail : List Nat)
    (A : List (Option Bytes)) (t : Tape) (hav : ms.length ≤ avail.length)
    (hb : ∀ p ∈ avail, p < A.length ∧ ∃ ptr, enc p = .ok ptr) : OnlyMiss (placeG ske lv enc key ms avail A t) := by
  induction ms generalizing avail A t with
  | nil => exact OnlyMiss.ok _
  | cons m ms ih =>
    unfold placeG
    have hne : avail ≠ [] := List.ne_nil_of_length_pos (Nat.lt_of_lt_of_le (Nat.succ_pos _) hav)
    rw [List.getLast?_eq_some_getLast hne]
    obtain ⟨q1, ptr, q2⟩ := hb _ (List.getLast_mem hne)
    apply OnlyMiss.bind_ok q2
    apply OnlyMiss.bind (skeEncrypt_onlyMiss ske lv hp key m t hk)
    intro ⟨d, t1⟩ _
    simp only [ge_iff_le, Nat.not_le.mpr q1, if_false]
    have hav' : ms.length ≤ avail.dropLast.length := by
      rw [List.length_dropLast]
      exact Nat.le_sub_one_of_lt hav
    have hb' : ∀ p ∈ avail.dropLast,
        p < (A.set (avail.getLast hne) (some d)).length ∧ ∃ ptr, enc p = .ok ptr := by
      intro p hp'
      rw [List.length_set]
      exact hb p ((List.dropLast_sublist avail).subset hp')
    apply OnlyMiss.bind (ih avail.dropLast (A.set (avail.getLast hne) (some d)) t1 hav' hb')
    intro ⟨ptrs, avail', A', t2⟩ _
    exact OnlyMiss.ok _

end SSEPy.Sch
