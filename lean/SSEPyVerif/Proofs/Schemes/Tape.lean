/-
  The randomness tape as the scheme proofs see it.  `Enc` is the one relation through which a stored ciphertext is seen: that it
  decrypts back, its length, its IV prefix (`Stamped`, C04) and its not being all zero follow from one C14 theorem each.
  `Stamped` / `FromTape` tie a stored string to the draws of its run, so that two runs with other draws store nothing in common.
-/
import SSEPyVerif.Proofs.Except
import SSEPyVerif.Proofs.Schemes.Prims
namespace SSEPy.Sch

theorem takeBytes_eq_ok {n : Nat} {t t' : Tape} {b : Bytes} :
    takeBytes n t = .ok (b, t') ↔ t = .bytes b :: t' ∧ b.length = n := by
  constructor
  · intro h
    unfold takeBytes at h
    split at h
    · rename_i b0 rest
      by_cases hlen : b0.length = n
      · rw [if_pos hlen] at h
        cases h
        exact ⟨rfl, hlen⟩
      · rw [if_neg hlen] at h
        cases h
    · cases h
  · rintro ⟨rfl, hlen⟩
    rw [takeBytes, if_pos hlen]

theorem takeNat_eq_ok {t t' : Tape} {n : Nat} : takeNat t = .ok (n, t') ↔ t = .nat n :: t' := by
  constructor
  · intro h
    unfold takeNat at h
    split at h
    · cases h
      rfl
    · cases h
  · rintro rfl
    rfl

theorem takeNats_eq_ok {t t' : Tape} {l : List Nat} : takeNats t = .ok (l, t') ↔ t = .nats l :: t' := by
  constructor
  · intro h
    unfold takeNats at h
    split at h
    · cases h
      rfl
    · cases h
  · rintro rfl
    rfl

/-- `t'` is what is left of `t` after some draws -/
def Suffix (t' t : Tape) : Prop := ∃ pre, t = pre ++ t'

theorem Suffix.of_eq {pre t t' : Tape} (h : t = pre ++ t') : Suffix t' t := ⟨pre, h⟩

theorem Suffix.refl (t : Tape) : Suffix t t := ⟨[], rfl⟩

theorem Suffix.trans {a b c : Tape} (h1 : Suffix a b) (h2 : Suffix b c) : Suffix a c := by
  obtain ⟨p1, rfl⟩ := h1
  obtain ⟨p2, rfl⟩ := h2
  exact ⟨p2 ++ p1, (List.append_assoc p2 p1 a).symm⟩

theorem Suffix.mem {t' t : Tape} (h : Suffix t' t) {d : Draw} (hd : d ∈ t') : d ∈ t := by
  obtain ⟨pre, rfl⟩ := h; exact List.mem_append_right _ hd

theorem Suffix.cons (d : Draw) (t : Tape) : Suffix t (d :: t) := ⟨[d], rfl⟩

theorem takeBytes_len {n : Nat} {t t' : Tape} {b : Bytes} (h : takeBytes n t = .ok (b, t')) : b.length = n :=
  (takeBytes_eq_ok.mp h).2

theorem takeBytes_tape {n : Nat} {t t' : Tape} {b : Bytes} (h : takeBytes n t = .ok (b, t')) : t = Draw.bytes b :: t' :=
  (takeBytes_eq_ok.mp h).1

theorem takeBytes_suffix {n : Nat} {t t' : Tape} {b : Bytes} (h : takeBytes n t = .ok (b, t')) : Suffix t' t := by
  rw [takeBytes_tape h]; exact .cons _ _

theorem takeBytesN_inv {n k : Nat} {t t' : Tape} {bs : List Bytes} (h : takeBytesN n k t = .ok (bs, t')) :
    t = bs.map Draw.bytes ++ t' ∧ bs.map (·.length) = List.replicate k n := by
  induction k generalizing t bs with
  | zero => cases h; exact ⟨rfl, rfl⟩
  | succ m ih =>
    simp only [takeBytesN, ok_inv] at h
    obtain ⟨⟨b, t1⟩, hb, ⟨bs', t2⟩, hr, h⟩ := h
    cases h
    obtain ⟨rfl, hl⟩ := takeBytes_eq_ok.mp hb
    obtain ⟨rfl, hls⟩ := ih hr
    exact ⟨rfl, by rw [List.map_cons, hl, hls, List.replicate_succ]⟩

theorem takeBytesN_suffix {n k : Nat} {t t' : Tape} {bs : List Bytes} (h : takeBytesN n k t = .ok (bs, t')) : Suffix t' t :=
  .of_eq (takeBytesN_inv h).1

theorem takeBytesN_lens {n k : Nat} {t t' : Tape} {bs : List Bytes} (h : takeBytesN n k t = .ok (bs, t')) :
    bs.length = k ∧ ∀ b ∈ bs, b.length = n := by
  have h := List.eq_replicate_iff.mp (takeBytesN_inv h).2
  exact ⟨by simpa using h.1, fun b hb => h.2 _ (List.mem_map_of_mem hb)⟩

/-- `_Gen` of the six schemes with a single key: `os.urandom(z)`, refused for a negative `z`.  Stated on the `if` that each
    of their `keyGen`s unfolds to, so that it applies to a hypothesis about any of them. -/
theorem urandom_len {z : Int} {t t' : Tape} {K : Bytes}
    (h : (if z < 0 then .error .valueError else takeBytes z.toNat t) = .ok (K, t')) : K.length = z.toNat := by
  simp only [ok_inv] at h
  exact takeBytes_len h.2

theorem urandomN_lens {z : Int} {k : Nat} {t t' : Tape} {Ks : List Bytes}
    (h : (if z < 0 then .error .valueError else takeBytesN z.toNat k t) = .ok (Ks, t')) :
    Ks.map (·.length) = List.replicate k z.toNat := by
  simp only [ok_inv] at h
  exact (takeBytesN_inv h.2).2

theorem takeNat_suffix {t t' : Tape} {n : Nat} (h : takeNat t = .ok (n, t')) : Suffix t' t := by
  rw [takeNat_eq_ok.mp h]; exact .cons _ _

theorem takeNats_suffix {t t' : Tape} {l : List Nat} (h : takeNats t = .ok (l, t')) : Suffix t' t := by
  rw [takeNats_eq_ok.mp h]; exact .cons _ _

theorem drawsLen_suffix (n : Nat) {t t' : Tape} (h : Suffix t' t) : (drawsLen n t').Sublist (drawsLen n t) := by
  obtain ⟨pre, rfl⟩ := h
  unfold drawsLen
  rw [List.filterMap_append]
  exact List.sublist_append_right _ _

/-- `v` starts with one of the 16-byte strings recorded on the tape -/
def Stamped (t : Tape) (v : Bytes) : Prop := Draw.bytes (v.take 16) ∈ t

theorem Stamped.mono {t t' : Tape} {v : Bytes} (hs : Suffix t' t) (h : Stamped t' v) : Stamped t v :=
  hs.mem h

theorem Stamped.disjoint {t u : Tape} (hdis : ∀ b, Draw.bytes b ∈ t → Draw.bytes b ∉ u) {v : Bytes} (h : Stamped t v) :
    ¬ Stamped u v := hdis _ h

/-- no 16-byte draw on the tape is all zero (an all-zero IV has probability 2^-128) -/
def GoodTape (t : Tape) : Prop := ∀ b, Draw.bytes b ∈ t → b.length = 16 → allZero b = false

theorem GoodTape.suffix {t t' : Tape} (h : GoodTape t) (hs : Suffix t' t) : GoodTape t' :=
  fun b hb hl => h b (hs.mem hb) hl

/-- the computation can only fail by running out of recorded randomness -/
def OnlyMiss {α : Type} (x : Except Err α) : Prop := ∀ e, x = .error e → e = .miss

theorem OnlyMiss.ok {α : Type} (a : α) : OnlyMiss (Except.ok a : Except Err α) := fun e h => by cases h

theorem OnlyMiss.bind {α β : Type} {x : Except Err α} {f : α → Except Err β} (hx : OnlyMiss x)
    (hf : ∀ a, x = .ok a → OnlyMiss (f a)) : OnlyMiss (x >>= f) := by
  cases hx' : x with
  | error e' =>
    intro e h
    cases h
    exact hx _ hx'
  | ok a => exact hf a hx'

theorem OnlyMiss.bind_ok {α β : Type} {x : Except Err α} {a : α} {f : α → Except Err β} (hx : x = .ok a)
    (hf : OnlyMiss (f a)) : OnlyMiss (x >>= f) := by
  rw [hx]; exact hf

theorem OnlyMiss.throw_miss {α : Type} : OnlyMiss (throw Err.miss : Except Err α) := fun e h => by cases h; rfl

theorem takeBytes_onlyMiss (n : Nat) (t : Tape) : OnlyMiss (takeBytes n t) := by
  intro e h
  unfold takeBytes at h
  split at h
  · split at h
    · cases h
    · cases h; rfl
  · cases h; rfl

theorem takeNat_onlyMiss (t : Tape) : OnlyMiss (takeNat t) := by
  intro e h
  unfold takeNat at h
  split at h
  · cases h
  · cases h; rfl

theorem takeNats_onlyMiss (t : Tape) : OnlyMiss (takeNats t) := by
  intro e h
  unfold takeNats at h
  split at h
  · cases h
  · cases h; rfl

theorem takeBytesN_onlyMiss (n k : Nat) (t : Tape) : OnlyMiss (takeBytesN n k t) := by
  induction k generalizing t with
  | zero => exact OnlyMiss.ok _
  | succ m ih =>
    unfold takeBytesN
    apply OnlyMiss.bind (takeBytes_onlyMiss n t)
    intro ⟨b, t1⟩ _
    apply OnlyMiss.bind (ih t1)
    intro ⟨bs, t2⟩ _
    exact OnlyMiss.ok _

theorem mapM_onlyMiss {α β : Type} (f : α → Except Err β) (hf : ∀ a, OnlyMiss (f a)) (l : List α) : OnlyMiss (l.mapM f) := by
  induction l with
  | nil => exact OnlyMiss.ok _
  | cons p ps ih =>
    rw [List.mapM_cons]
    apply OnlyMiss.bind (hf p)
    intro _ _
    apply OnlyMiss.bind ih
    intro _ _
    exact OnlyMiss.ok _

/-- `c` is `msg` encrypted under `key` with a 16-byte IV drawn on `t` -/
def Enc (ske : AESxCBC) (lv : Leaves) (t : Tape) (key msg c : Bytes) : Prop :=
  ∃ iv, iv.length = 16 ∧ Draw.bytes iv ∈ t ∧ ske.encrypt lv.E key iv msg = .ok c

variable {ske : AESxCBC} {lv : Leaves} {t t' : Tape} {key msg c : Bytes}

theorem Enc.mono_mem (hm : ∀ d ∈ t', d ∈ t) (h : Enc ske lv t' key msg c) : Enc ske lv t key msg c := by
  obtain ⟨iv, h1, h2, h3⟩ := h
  exact ⟨iv, h1, hm _ h2, h3⟩

theorem Enc.mono (hs : Suffix t' t) (h : Enc ske lv t' key msg c) : Enc ske lv t key msg c :=
  h.mono_mem fun _ => hs.mem

theorem skeEncrypt_inv (h : skeEncrypt ske lv key msg t = .ok (c, t')) :
    ∃ iv, takeBytes 16 t = .ok (iv, t') ∧ ske.encrypt lv.E key iv msg = .ok c := by
  unfold skeEncrypt at h
  split at h
  · cases h
  · simp only [ok_inv] at h
    obtain ⟨⟨iv, t1⟩, hiv, c', hc, h⟩ := h
    cases h
    exact ⟨iv, hiv, hc⟩

theorem skeEncrypt_enc (h : skeEncrypt ske lv key msg t = .ok (c, t')) : Enc ske lv t key msg c ∧ Suffix t' t := by
  obtain ⟨iv, hiv, hc⟩ := skeEncrypt_inv h
  obtain ⟨rfl, hl⟩ := takeBytes_eq_ok.mp hiv
  exact ⟨⟨iv, hl, List.mem_cons_self, hc⟩, .cons _ _⟩

theorem skeEncrypt_tape (h : skeEncrypt ske lv key msg t = .ok (c, t')) : t = .bytes (c.take 16) :: t' := by
  obtain ⟨iv, hiv, hc⟩ := skeEncrypt_inv h
  obtain ⟨rfl, hl⟩ := takeBytes_eq_ok.mp hiv
  rw [C14.enc_iv_prefix ske lv.E key iv msg c hl hc]

theorem Enc.intro {iv : Bytes} (hl : iv.length = 16) (hm : Draw.bytes iv ∈ t) (he : ske.encrypt lv.E key iv msg = .ok c) :
    Enc ske lv t key msg c := ⟨iv, hl, hm, he⟩

theorem Enc.dec (hde : Decrypts ske lv)
    (h : Enc ske lv t key msg c) : ske.decrypt lv.D key c = .ok msg := by
  obtain ⟨iv, hl, _, hc⟩ := h
  exact hde key iv msg c hl hc

theorem Enc.length (hE : BlockLen lv) (h : Enc ske lv t key msg c) :
    c.length = 16 + 16 * (msg.length / 16 + 1) := by
  obtain ⟨iv, hl, _, hc⟩ := h
  exact C14.enc_len ske lv.E key iv msg c (hE key) hl hc

theorem Enc.stamped (h : Enc ske lv t key msg c) : Stamped t c := by
  obtain ⟨iv, hl, hm, hc⟩ := h
  unfold Stamped
  rwa [C14.enc_iv_prefix ske lv.E key iv msg c hl hc]

theorem Enc.nonzero (hg : GoodTape t) (h : Enc ske lv t key msg c) : allZero c = false := by
  obtain ⟨iv, hl, hm, hc⟩ := h
  have hnz := hg iv hm hl
  rw [← C14.enc_iv_prefix ske lv.E key iv msg c hl hc] at hnz
  cases hz : allZero c with
  | false => rfl
  | true =>
    have : allZero (c.take 16) = true := by
      unfold allZero at hz ⊢
      rw [List.all_eq_true] at hz ⊢
      exact fun x hx => hz x (List.mem_of_mem_take hx)
    rw [this] at hnz; cases hnz

theorem Enc.ne_singleton (h : Enc ske lv t key msg c) (x : UInt8) : c ≠ [x] := by
  obtain ⟨iv, hl, _, hc⟩ := h
  intro e
  have := C14.enc_iv_prefix ske lv.E key iv msg c hl hc
  rw [e] at this
  rw [← this] at hl
  cases hl

theorem skeEncrypt_onlyMiss (ske : AESxCBC) (lv : Leaves) (hp : PlainSke ske) (key msg : Bytes) (t : Tape)
    (hk : (key.length : Int) = ske.keyLength) : OnlyMiss (skeEncrypt ske lv key msg t) := by
  have he : ∀ iv, ∃ c, ske.encrypt lv.E key iv msg = .ok c := fun _ => encrypt_returns hp lv.E hk
  obtain ⟨c0, h0⟩ := he (zeros 16)
  unfold skeEncrypt
  rw [h0]
  simp only
  apply OnlyMiss.bind (takeBytes_onlyMiss 16 t)
  intro ⟨iv, t1⟩ _
  obtain ⟨c, hc⟩ := he iv
  simp only [hc]
  exact OnlyMiss.ok _

theorem skeEncrypt_returns (ske : AESxCBC) (lv : Leaves) (hp : PlainSke ske) (key msg b : Bytes) (t : Tape)
    (hk : (key.length : Int) = ske.keyLength) (hb : b.length = 16) :
    ∃ c, skeEncrypt ske lv key msg (.bytes b :: t) = .ok (c, t) := by
  obtain ⟨c0, h0⟩ := encrypt_returns hp lv.E hk (iv := zeros 16) (msg := msg)
  obtain ⟨c, hc⟩ := encrypt_returns hp lv.E hk (iv := b) (msg := msg)
  exact ⟨c, by simp [skeEncrypt, h0, takeBytes, hb, hc, ok_bind, pure_eq]⟩

theorem values_share_nothing {t u : Tape} (hdis : ∀ b, Draw.bytes b ∈ t → Draw.bytes b ∉ u) {D D' : Table}
    (h : ∀ p ∈ D, Stamped t p.2) (h' : ∀ p ∈ D', Stamped u p.2) : ∀ p ∈ D, ∀ q ∈ D', p.2 ≠ q.2 :=
  fun p hp q hq he => (h p hp).disjoint hdis (he ▸ h' q hq)

theorem shares_nothing {t u : Tape} (hdis : ∀ b, Draw.bytes b ∈ t → Draw.bytes b ∉ u) {A A' : List (Option Bytes)} {D D' : Table}
    (h : (∀ c, some c ∈ A → Stamped t c) ∧ (∀ p ∈ D, Stamped t p.2))
    (h' : (∀ c, some c ∈ A' → Stamped u c) ∧ (∀ p ∈ D', Stamped u p.2)) :
    (∀ c, some c ∈ A → some c ∉ A') ∧ (∀ p ∈ D, ∀ q ∈ D', p.2 ≠ q.2) :=
  ⟨fun c hc hc' => (h.1 c hc).disjoint hdis (h'.1 c hc'), values_share_nothing hdis h.2 h'.2⟩

/-- a stored value that comes from this run's randomness: stamped ciphertext(s) or a random filler -/
def FromTape (t : Tape) (v : Bytes) : Prop := Stamped t v ∨ Draw.bytes v ∈ t

theorem FromTape.mono {t t' : Tape} {v : Bytes} (hs : Suffix t' t) (h : FromTape t' v) : FromTape t v :=
  h.imp (Stamped.mono hs) hs.mem

theorem FromTape.of_stamped {t : Tape} {v : Bytes} (h : Stamped t v) : FromTape t v := .inl h

theorem FromTape.of_draw {t : Tape} {v : Bytes} (h : Draw.bytes v ∈ t) : FromTape t v := .inr h

def AllFrom (t : Tape) (Ls : List (List (Bytes × Bytes))) : Prop := ∀ L ∈ Ls, ∀ p ∈ L, FromTape t p.2

theorem AllFrom.mono {t t' : Tape} {Ls : List (List (Bytes × Bytes))} (hs : Suffix t' t) (h : AllFrom t' Ls) : AllFrom t Ls :=
  fun L hL p hp => (h L hL p hp).mono hs

end SSEPy.Sch
