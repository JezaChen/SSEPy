/-
  ANSS16 Scheme 3.  `RowOK` says what is stored for one keyword: the list, padded to a power of two and encrypted, on the
  level of that power, and the encrypted list length in the size table.  The index is the rows of the padded database by
  level (`PaddedLevels`) and the size table (`Padded`); search, the shape (C05: it depends on ⌈log2 N⌉ only) and the
  provenance (C04) are read off that.
-/
import SSEPyVerif.Proofs.Schemes.Levels
import SSEPyVerif.Proofs.Schemes.Cfg
namespace SSEPy.Sch

namespace ANSS16

structure Usable (cfg : ANSSCfg) : Prop where
  plain : PlainSke cfg.ske
  skeKey : cfg.ske.keyLength = cfg.k
  prfKey : cfg.prf.keyLength = LENGTH_UNLIMITED
  prfMsg : cfg.prf.messageLength = LENGTH_UNLIMITED
  prfOut : cfg.prf.outputLength = cfg.k + cfg.kPrime + cfg.l + cfg.lPrime
  prfHash : cfg.prf.hashLen = 20
  kpos : 0 < cfg.k
  kPpos : 0 < cfg.kPrime
  lpos : 0 < cfg.l
  lPpos : 0 < cfg.lPrime

variable (cfg : ANSSCfg) (lv : Leaves)

structure Parsed (raw : RawCfg) : Prop where
  positive : checkParamPositive raw = .ok ()
  exist : checkParamExist
    ["param_lambda", "param_k", "param_k_prime", "param_l", "param_l_prime", "param_identifier_size", "prf", "ske"]
    raw = .ok ()
  getLambda : getInt raw "param_lambda" = .ok cfg.lambda
  getK : getInt raw "param_k" = .ok cfg.k
  getKPrime : getInt raw "param_k_prime" = .ok cfg.kPrime
  getL : getInt raw "param_l" = .ok cfg.l
  getLPrime : getInt raw "param_l_prime" = .ok cfg.lPrime
  getIdSize : getInt raw "param_identifier_size" = .ok cfg.idSize
  prfName : isHmacPrfName (getName raw "prf") = true
  skeName : isAesCbcName (getName raw "ske") = true
  ske : AESxCBC.new cfg.k = .ok cfg.ske
  prf : cfg.prf = HmacPRF.new (cfg.k + cfg.kPrime + cfg.l + cfg.lPrime) LENGTH_UNLIMITED LENGTH_UNLIMITED 20

theorem cfgBuild_inv (raw : RawCfg) (h : ANSS16.cfgBuild raw = .ok cfg) : Parsed cfg raw := by
  simp only [ANSS16.cfgBuild, ok_inv, Bool.not_eq_true', Bool.not_eq_false] at h
  obtain ⟨_, hpos, _, hex, lam, hlam, k, hk, kp, hkp, l, hl, lp, hlp, ids, hids, hpn, hsn, ske, hske, h⟩ := h
  subst h
  exact
    { positive := hpos, exist := hex, getLambda := hlam, getK := hk, getKPrime := hkp, getL := hl, getLPrime := hlp,
      getIdSize := hids, prfName := hpn, skeName := hsn, ske := hske, prf := rfl }

theorem cfgBuild_usable (raw : RawCfg) (h : ANSS16.cfgBuild raw = .ok cfg) : Usable cfg := by
  have p := cfgBuild_inv cfg raw h
  have pos := fun f z => param_pos _ raw f z p.positive p.exist
  have pk := pos "param_k" cfg.k (by decide +kernel) (by simp) p.getK
  have pkp := pos "param_k_prime" cfg.kPrime (by decide +kernel) (by simp) p.getKPrime
  have pl := pos "param_l" cfg.l (by decide +kernel) (by simp) p.getL
  have plp := pos "param_l_prime" cfg.lPrime (by decide +kernel) (by simp) p.getLPrime
  obtain ⟨hplain, hkl⟩ := new_plain cfg.k cfg.ske p.ske
  have hout : 0 < cfg.k + cfg.kPrime + cfg.l + cfg.lPrime := by omega
  exact
    { plain := hplain, skeKey := hkl,
      prfKey := congrArg HmacPRF.keyLength p.prf
      prfMsg := congrArg HmacPRF.messageLength p.prf
      prfOut := (congrArg HmacPRF.outputLength p.prf).trans (HmacPRF.new_out hout)
      prfHash := congrArg HmacPRF.hashLen p.prf
      kpos := pk, kPpos := pkp, lpos := pl, lPpos := plp }

/-- ciphertext length of one identifier (`CT14.clen` of `asCT14 cfg`) -/
def clen : Nat := 16 + 16 * (cfg.idSize.toNat / 16 + 1)

variable {cfg lv} in
theorem token_eq_ok {K w : Bytes} {tk : ANSSToken} :
    token cfg lv K w = .ok tk ↔ ∃ x, cfg.prf.call lv.hmac K w = .ok x ∧
      splitBytes x [cfg.l.toNat, cfg.k.toNat, cfg.lPrime.toNat, cfg.kPrime.toNat] = .ok [tk.li, tk.Ki, tk.liP, tk.KiP] := by
  simp only [token, ok_inv]
  constructor
  · rintro ⟨x, hx, pieces, hp, h⟩
    split at h
    · cases h
      exact ⟨x, hx, hp⟩
    · cases h
  · rintro ⟨x, hx, hp⟩
    exact ⟨x, hx, _, hp, rfl⟩

variable {cfg lv} in
theorem token_lens {K w : Bytes} {tk : ANSSToken} (h : token cfg lv K w = .ok tk) :
    tk.li.length = cfg.l.toNat ∧ tk.Ki.length = cfg.k.toNat ∧ tk.liP.length = cfg.lPrime.toNat ∧
      tk.KiP.length = cfg.kPrime.toNat := by
  obtain ⟨_, _, hp⟩ := token_eq_ok.mp h
  simpa only [List.map_cons, List.map_nil, List.cons.injEq, and_true] using splitBytes_lens hp

/-- the fields `padLevels` reads — `ske`, `kPrime`, `idSize`, `l` — as a CT14 configuration; `prfF`, `prfFPrime` are not read
    and hold any PRF -/
def asCT14 : CT14Cfg :=
  { k := cfg.k, kPrime := cfg.kPrime, l := cfg.l, idSize := cfg.idSize, prfF := cfg.prf, prfFPrime := cfg.prf, ske := cfg.ske }

theorem padLevels_eq (tt i : Nat) (Ls : List (List (Bytes × Bytes))) (t : Tape) :
    padLevels cfg lv tt i Ls t = CT14.padLevels (asCT14 cfg) lv (tt + 1) i Ls t := by
  induction Ls generalizing i t with
  | nil => rfl
  | cons L rest ih => simp only [padLevels, CT14.padLevels, ih, asCT14]

structure Row where
  level : Nat
  tk : ANSSToken
  dummies : List Bytes
  value : Bytes
  nb : Bytes
  niP : Bytes

/-- the entry the row puts on its level: label `li`, the encrypted padded list -/
def Row.levelEntry (r : Row) : Nat × Bytes × Bytes := (r.level, r.tk.li, r.value)

/-- the entry the row puts in the size table: label `li'`, the encrypted list length -/
def Row.sizeEntry (r : Row) : Bytes × Bytes := (r.tk.liP, r.niP)

/-- `r` is what `encDb` computes for the keyword `p.1` with list `p.2`, the draws on `t`: the list, padded to `2^level`
    identifiers and encrypted under `Ki`, and the list length encrypted under `Ki'` -/
structure RowOK (K : Bytes) (niSize : Nat) (t : Tape) (p : Bytes × List Bytes) (r : Row) : Prop where
  nonempty : p.2.length ≠ 0
  level : r.level = clog2 p.2.length
  token : token cfg lv K p.1 = .ok r.tk
  count : (p.2 ++ r.dummies).length = 2 ^ r.level
  dummyLen : ∀ d ∈ r.dummies, d.length = cfg.idSize.toNat
  block : Block cfg.ske lv t r.tk.Ki (p.2 ++ r.dummies) r.value
  nb : intToBytesNat p.2.length niSize = .ok r.nb
  enc : Enc cfg.ske lv t r.tk.KiP r.nb r.niP

variable {cfg lv}

theorem RowOK.mono {K : Bytes} {niSize : Nat} {t t' : Tape} {p : Bytes × List Bytes} {r : Row} (hs : Suffix t' t)
    (h : RowOK cfg lv K niSize t' p r) : RowOK cfg lv K niSize t p r :=
  { h with block := h.block.mono hs, enc := h.enc.mono hs }

theorem encDb_inv {K : Bytes} {niSize : Nat} {db : DB} {Ts Ts' : List (List (Bytes × Bytes))} {S S' : List (Bytes × Bytes)}
    {t t' : Tape} (h : encDb cfg lv K niSize db Ts S t = .ok (Ts', S', t')) :
    ∃ rows : List Row, Forall₂ (RowOK cfg lv K niSize t) db rows ∧ pushAll (rows.map Row.levelEntry) Ts = .ok Ts' ∧
      S' = S ++ rows.map Row.sizeEntry ∧ Suffix t' t := by
  induction db generalizing Ts S t with
  | nil => cases h; exact ⟨[], .nil, rfl, (List.append_nil _).symm, .refl _⟩
  | cons p rest ih =>
    obtain ⟨w, ids⟩ := p
    simp only [encDb, ok_inv] at h
    obtain ⟨hne, ⟨dummies, t1⟩, h1, tk, h2, ⟨cs, t2⟩, h3, nb, h4, ⟨niP, t3⟩, h5, Ts1, h6, h7⟩ := h
    dsimp only at h3 h5 h6 h7
    obtain ⟨rows, hrows, hpush, rfl, s4⟩ := ih h7
    have s1 := takeBytesN_suffix h1
    obtain ⟨e2, s2⟩ := encAll_block h3
    obtain ⟨e3, s3⟩ := skeEncrypt_enc h5
    have s13 := s3.trans (s2.trans s1)
    have hcount : (ids ++ dummies).length = 2 ^ clog2 ids.length := by
      have := le_two_pow_clog2 ids.length
      rw [List.length_append, (takeBytesN_lens h1).1]
      omega
    let r : Row :=
      { level := clog2 ids.length, tk := tk, dummies := dummies, value := cs.flatten, nb := nb, niP := niP }
    have hrow : RowOK cfg lv K niSize t (w, ids) r :=
      { nonempty := hne, level := rfl, token := h2, count := hcount, dummyLen := (takeBytesN_lens h1).2,
        block := e2.mono s1, nb := h4, enc := e3.mono (s2.trans s1) }
    exact ⟨r :: rows, .cons hrow (hrows.imp fun _ _ hr => hr.mono s13), pushAll_cons.mpr ⟨Ts1, h6, hpush⟩,
      List.append_assoc _ _ _, s4.trans s13⟩

theorem setup_inv {K : Bytes} {db : DB} {t t' : Tape} {edb : ANSSEDB} (h : setup cfg lv K db t = .ok (edb, t')) :
    ∃ SL TL, setupLists cfg lv K db t = .ok (SL, TL, t') ∧ edb = { HTS := buildTable SL, HTL := TL.map buildTable } := by
  simp only [setup, ok_inv] at h
  obtain ⟨⟨SL, TL, t1⟩, h1, h⟩ := h
  cases h
  exact ⟨SL, TL, h1, rfl⟩

theorem setupLists_inv (hE : BlockLen lv) {K : Bytes} {db : DB} {t t' : Tape} {SL : List (Bytes × Bytes)} {TL : List (List (Bytes × Bytes))}
    (h : setupLists cfg lv K db t = .ok (SL, TL, t')) :
    ∃ (pdb : DB) (t1 : Tape) (rows : List Row),
      padLoop cfg.idSize.toNat (2 ^ clog2 db.total) (2 ^ clog2 db.total + 1) db db.total t = .ok (pdb, t1) ∧
      Forall₂ (RowOK cfg lv K (ceilDiv (clog2 db.total + 1) 8) t) pdb rows ∧
      Padded t (rows.map Row.sizeEntry) SL (2 ^ clog2 db.total) cfg.lPrime.toNat (16 + 16 * (ceilDiv (clog2 db.total + 1) 8 / 16 + 1)) ∧
      PaddedLevels t (rows.map Row.levelEntry) TL (clog2 db.total + 1) cfg.l.toNat (fun j => 2 ^ (clog2 db.total + 1 - j))
        fun j => 2 ^ j * clen cfg := by
  simp only [setupLists, ok_inv] at h
  obtain ⟨_, ⟨pdb, t1⟩, h1, ⟨Ts, S, t2⟩, h2, ⟨Ts', t3⟩, h3, ⟨nlen, t4⟩, h4, ⟨fs, t5⟩, h5, h⟩ := h
  dsimp only at h2 h3 h4 h5 h
  cases h
  have s1 := padLoop_suffix h1
  obtain ⟨rows, hrows, hpush, rfl, s2⟩ := encDb_inv h2
  rw [padLevels_eq] at h3
  -- in `hlev`, `(asCT14 cfg).l` and `CT14.clen (asCT14 cfg)` unfold to `cfg.l` and `clen cfg`
  obtain ⟨s3, hlev⟩ := CT14.pushAll_padLevels_inv hE hpush h3
  obtain ⟨rfl, s4⟩ := CT14.cipherLen_inv hE h4
  rw [List.nil_append] at h5 ⊢
  have s12 := s2.trans s1
  exact ⟨pdb, t1, rows, h1, hrows.imp fun _ _ hr => hr.mono s1, (fillers_padded h5).1.mono (s4.trans (s3.trans s12)),
    hlev.mono s12⟩

theorem search_present (hE : BlockLen lv) (hde : Decrypts cfg.ske lv) {K : Bytes} {db : DB} {t t' : Tape} {edb : ANSSEDB}
    (hs : setup cfg lv K db t = .ok (edb, t')) (hg : GoodTape t) (w : Bytes) (ids : List Bytes)
    (hidl : ∀ x ∈ ids, x.length = cfg.idSize.toNat)
    (hpad : ∀ pdb t1, padLoop cfg.idSize.toNat (2 ^ clog2 db.total) (2 ^ clog2 db.total + 1) db db.total t = .ok (pdb, t1) →
      (w, ids) ∈ pdb)
    (hnc : ∀ SL TL, setupLists cfg lv K db t = .ok (SL, TL, t') → (SL.map (·.1)).Nodup ∧ ∀ l ∈ TL, (l.map (·.1)).Nodup) :
    ∃ tk, token cfg lv K w = .ok tk ∧ search cfg lv edb tk = .ok ids := by
  obtain ⟨SL, TL, hr, rfl⟩ := setup_inv hs
  obtain ⟨hSLn, hTLn⟩ := hnc SL TL hr
  obtain ⟨pdb, t1, rows, h1, hrows, hSL, hlev⟩ := setupLists_inv hE hr
  obtain ⟨r, hrm, hrow⟩ := hrows.of_mem_left (hpad pdb t1 h1)
  refine ⟨r.tk, hrow.token, ?_⟩
  have hget1 : (buildTable SL).get r.tk.liP = some r.niP :=
    buildTable_get_of_mem _ _ _ hSLn (hSL.mem (List.mem_map_of_mem (f := Row.sizeEntry) hrm))
  obtain ⟨hlt, hget2⟩ := hlev.get hTLn (List.mem_map_of_mem (f := Row.levelEntry) hrm)
  rw [hrow.level, ← List.length_map (f := buildTable)] at hlt
  rw [hrow.level] at hget2
  obtain ⟨cs, hparse, hdec⟩ := hrow.block.read hE hde hg (List.forall_mem_append.mpr ⟨hidl, hrow.dummyLen⟩)
    (hrow.count ▸ Nat.two_pow_pos _)
  rw [hrow.count, hrow.level] at hparse
  -- of the `2^p` decrypted entries the first `|ids|` are the real ones
  have htake : decAll cfg.ske lv r.tk.Ki (cs.take ids.length) = .ok ids := by
    rw [decAll_take ids.length hdec, List.take_left']
    rfl
  simp only [search, hget1, ok_bind, hrow.enc.dec hde, (C17.int_roundtrip _ _ _ hrow.nb).1, hrow.nonempty,
    Nat.not_le.mpr hlt, hget2, hparse, if_false, htake]

theorem rows_length_le {K : Bytes} {niSize : Nat} {t : Tape} {db : DB} {rows : List Row}
    (h : Forall₂ (RowOK cfg lv K niSize t) db rows) : rows.length ≤ db.total := by
  induction h with
  | nil => exact Nat.le_refl _
  | @cons q r _ _ hr _ ih =>
    rw [DB.total_cons, List.length_cons, Nat.add_comm]
    exact Nat.add_le_add (Nat.pos_of_ne_zero hr.nonempty) ih

/-- level `p` gets at most `2N / 2^p` entries: a row addressed to it has more than `2^p / 2` identifiers -/
theorem level_count_le {K : Bytes} {niSize : Nat} {t : Tape} {db : DB} {rows : List Row}
    (h : Forall₂ (RowOK cfg lv K niSize t) db rows) (p : Nat) :
    (atLevel (rows.map Row.levelEntry) p).length * 2 ^ p ≤ 2 * db.total := by
  induction h with
  | nil =>
    rw [List.map_nil, atLevel_nil, List.length_nil, Nat.zero_mul]
    exact Nat.zero_le _
  | @cons q r _ _ hr _ ih =>
    rw [List.map_cons, atLevel_cons, DB.total_cons]
    split
    · rename_i hp
      have hlt := two_pow_clog2_lt q.2.length (Nat.pos_of_ne_zero hr.nonempty)
      rw [← hr.level, show r.level = p from hp] at hlt
      rw [List.length_cons, Nat.add_mul, Nat.one_mul, Nat.mul_add, Nat.add_comm]
      exact Nat.add_le_add (Nat.le_of_lt hlt) ih
    · exact Nat.le_trans ih (Nat.mul_le_mul_left 2 (Nat.le_add_left _ _))

/-- in the form `PaddedLevels.shape` asks for -/
theorem RowOK.levelEntry_lens (hE : BlockLen lv) {K : Bytes} {niSize : Nat} {t : Tape} {p : Bytes × List Bytes} {r : Row}
    (h : RowOK cfg lv K niSize t p r) (hidl : ∀ x ∈ p.2, x.length = cfg.idSize.toNat) :
    r.levelEntry.2.1.length = cfg.l.toNat ∧ r.levelEntry.2.2.length = 2 ^ r.levelEntry.1 * clen cfg := by
  show r.tk.li.length = cfg.l.toNat ∧ r.value.length = 2 ^ r.level * clen cfg
  have hpadded : ∀ x ∈ p.2 ++ r.dummies, x.length = cfg.idSize.toNat := List.forall_mem_append.mpr ⟨hidl, h.dummyLen⟩
  refine ⟨(token_lens h.token).1, ?_⟩
  rw [clen, h.block.length hE hpadded, h.count]

/-- in the form `Padded.shape` asks for -/
theorem RowOK.sizeEntry_lens (hE : BlockLen lv) {K : Bytes} {niSize : Nat} {t : Tape} {p : Bytes × List Bytes} {r : Row}
    (h : RowOK cfg lv K niSize t p r) :
    r.sizeEntry.1.length = cfg.lPrime.toNat ∧ r.sizeEntry.2.length = 16 + 16 * (niSize / 16 + 1) := by
  show r.tk.liP.length = cfg.lPrime.toNat ∧ r.niP.length = 16 + 16 * (niSize / 16 + 1)
  obtain ⟨_, _, hliP, _⟩ := token_lens h.token
  refine ⟨hliP, ?_⟩
  rw [h.enc.length hE, (C17.int_roundtrip _ _ _ h.nb).2]

theorem setupLists_shape (hE : BlockLen lv) {K : Bytes} {db : DB} {t t' : Tape} {SL : List (Bytes × Bytes)}
    {TL : List (List (Bytes × Bytes))} (h : setupLists cfg lv K db t = .ok (SL, TL, t'))
    (hidl : ∀ p ∈ db, ∀ x ∈ p.2, x.length = cfg.idSize.toNat) (hfresh : (db.map (·.1) ++ draws32 t).Nodup) :
    TL.length = clog2 db.total + 1 ∧
    (∀ j L, TL[j]? = some L → L.length = 2 ^ (clog2 db.total + 1 - j) ∧ EntLens L cfg.l.toNat (2 ^ j * clen cfg)) ∧
    SL.length = 2 ^ clog2 db.total ∧
    EntLens SL cfg.lPrime.toNat (16 + 16 * (ceilDiv (clog2 db.total + 1) 8 / 16 + 1)) := by
  obtain ⟨pdb, t1, rows, h1, hrows, hSL, hlev⟩ := setupLists_inv hE h
  obtain ⟨p1, p2⟩ := padLoop_total h1 rfl (le_two_pow_clog2 _) hfresh hidl
  refine ⟨hlev.length, hlev.shape (fun j hj => ?_) (fun e he => ?_), hSL.shape ?_ fun x hx => ?_⟩
  · have hc := level_count_le hrows j
    rw [p1, Nat.mul_comm 2, ← Nat.pow_succ] at hc
    exact le_two_pow_sub hc (Nat.le_of_lt hj)
  · obtain ⟨r, hr, rfl⟩ := List.mem_map.mp he
    obtain ⟨p, hp, hrow⟩ := hrows.of_mem_right hr
    exact hrow.levelEntry_lens hE (p2 p hp)
  · rw [List.length_map, ← p1]
    exact rows_length_le hrows
  · obtain ⟨r, hr, rfl⟩ := List.mem_map.mp hx
    obtain ⟨p, _, hrow⟩ := hrows.of_mem_right hr
    exact hrow.sizeEntry_lens hE

theorem setup_fromTape (hE : BlockLen lv) {K : Bytes} {db : DB} {t t' : Tape} {edb : ANSSEDB}
    (h : setup cfg lv K db t = .ok (edb, t')) :
    (∀ p ∈ edb.HTS, FromTape t p.2) ∧ ∀ T ∈ edb.HTL, ∀ p ∈ T, FromTape t p.2 := by
  obtain ⟨SL, TL, hr, rfl⟩ := setup_inv h
  obtain ⟨pdb, t1, rows, _, hrows, hSL, hlev⟩ := setupLists_inv hE hr
  have hfrom : ∀ r ∈ rows, FromTape t r.value ∧ FromTape t r.niP := fun r hr => by
    obtain ⟨q, _, hrow⟩ := hrows.of_mem_right hr
    exact ⟨.of_stamped (hrow.block.stamped hE (hrow.count ▸ Nat.two_pow_pos _)), .of_stamped hrow.enc.stamped⟩
  have hall : AllFrom t TL := hlev.allFrom fun e he => by
    obtain ⟨r, hr, rfl⟩ := List.mem_map.mp he
    exact (hfrom r hr).1
  refine ⟨fun p hp => hSL.fromTape (fun s hs => ?_) p (mem_buildTable SL p hp), fun T hT p hp => ?_⟩
  · obtain ⟨r, hr, rfl⟩ := List.mem_map.mp hs
    exact (hfrom r hr).2
  · obtain ⟨L, hL, rfl⟩ := List.mem_map.mp hT
    exact hall L hL p (mem_buildTable L p hp)

end ANSS16
end SSEPy.Sch
