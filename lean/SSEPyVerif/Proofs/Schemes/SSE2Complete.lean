/-
  SSE-2, the error side.  SSE-2 draws no randomness, so there is no `.miss`: `EDBSetup` and `TokenGen` return.  Every address
  `π(w ‖ j)` is defined (`addr_ok`): the keyword fits its `8·l`-bit field, the counter its `bitsNM`-bit field, and the PRP is
  called with the widths it was declared with.  When no identifier is posted more than `param_max` times every counter of
  `encDb` stays within `param_max` (`cap_of_count`), so the filler loop is empty and only the addresses of the postings have
  to be defined (`setup_ok'`).
-/
import SSEPyVerif.Proofs.Schemes.SSE2

namespace SSEPy.Sch.SSE2
open SSEPy.Sch

variable (cfg : SSE2Cfg) (lv : Leaves)

section
variable (hh : ∀ k m, (lv.hmac k m).length = 20) (hu : Usable cfg)
include hh hu

theorem addr_ok (K1 w : Bytes) (hK : (K1.length : Int) = cfg.k) (hw : (w.length : Int) ≤ cfg.l) (j : Nat)
    (hj : j < 2 ^ cfg.bitsNM) : ∃ a, addr cfg lv K1 w (j : Int) = .ok a := by
  obtain ⟨hwb, hwlt, el⟩ := Bitset.ofBytes_returns w cfg.l hw
  -- `bits ≤ 8·bytesNM`: the counter fits the bytes it is written to
  obtain ⟨jb, hjb, rfl⟩ : ∃ jb, intToBytes (j : Int) cfg.bytesNM = .ok jb ∧ fromBE jb = j := by
    have hlt : j < 256 ^ cfg.bytesNM := Nat.lt_of_lt_of_le hj (two_pow_le_256_pow hu.bytes)
    have h : intToBytesNat j cfg.bytesNM = .ok (toBE cfg.bytesNM j) := intToBytesNat_eq_ok.mpr ⟨hlt, rfl⟩
    have h' : intToBytes (j : Int) cfg.bytesNM = .ok (toBE cfg.bytesNM j) := by
      rw [intToBytes_natCast]
      exact h
    exact ⟨_, h', (C17.int_roundtrip j _ _ h).1⟩
  have hmlt : fromBE w * 2 ^ cfg.bitsNM + fromBE jb < 2 ^ ((cfg.l * 8).toNat + cfg.bitsNM) :=
    Bitset.WF.concat (a := ⟨fromBE w, _⟩) (b := ⟨fromBE jb, _⟩) hwlt hj
  obtain ⟨key, hkey, o, ho, _⟩ := bitwiseFpePrp_returns hh hK hmlt (Nat.add_le_add hu.lbits hu.bits)
  simp only [Int.natCast_add, el] at ho
  have hcb : Bitset.ofBytes jb cfg.bitsNM = .ok ⟨fromBE jb, cfg.bitsNM⟩ :=
    (Bitset.ofBytes_eq_ok (Nat.ne_of_gt hu.bits)).mpr ⟨hj, rfl⟩
  have hret : addr cfg lv K1 w ((fromBE jb : Nat) : Int) = .ok o.value := by
    simp only [addr, Bitset.concat, hkey, hwb, hjb, hcb, Bitset.mk'_of_lt _ _ hmlt, ho, ok_bind, pure_eq]
  exact ⟨o.value, hret⟩

end

section
variable (hh : HmacLen lv) (hu : Usable cfg)
include hh hu

theorem tokenLoop_returns (K1 w : Bytes) (hK : (K1.length : Int) = cfg.k) (hw : (w.length : Int) ≤ cfg.l)
    (m i : Nat) (h : i + m ≤ 2 ^ cfg.bitsNM) : ∃ t, tokenLoop cfg lv K1 w m i = .ok t := by
  induction m generalizing i with
  | zero => exact ⟨[], rfl⟩
  | succ m ih =>
    obtain ⟨a, ha⟩ := addr_ok cfg lv hh hu K1 w hK hw i (by omega)
    obtain ⟨t, ht⟩ := ih (i + 1) (by omega)
    have hcons : tokenLoop cfg lv K1 w (m + 1) i = .ok (a :: t) := by
      simp only [tokenLoop, ok_inv]
      exact ⟨a, ha, t, ht, rfl⟩
    exact ⟨a :: t, hcons⟩

theorem token_returns (K1 w : Bytes) (hK : (K1.length : Int) = cfg.k) (hw : (w.length : Int) ≤ cfg.l)
    (hn : cfg.n.toNat < 2 ^ cfg.bitsNM) : ∃ t, token cfg lv K1 w = .ok t :=
  tokenLoop_returns cfg lv hh hu K1 w hK hw cfg.n.toNat 1 (by omega)

theorem writes_returns (K1 : Bytes) (hK : (K1.length : Int) = cfg.k) (db : DB)
    (hdb : ∀ p ∈ db, (p.1.length : Int) ≤ cfg.l ∧ p.2.length < 2 ^ cfg.bitsNM) :
    ∃ ws, writes cfg lv K1 db = .ok ws := by
  induction db with
  | nil => exact ⟨_, rfl⟩
  | cons p rest ih =>
    have hp := hdb p List.mem_cons_self
    obtain ⟨as, has⟩ := tokenLoop_returns cfg lv hh hu K1 p.1 hK hp.1 p.2.length 1 (by omega)
    obtain ⟨ws, hws⟩ := ih (fun q hq => hdb q (List.mem_cons_of_mem _ hq))
    exact ⟨_, writes_cons.mpr ⟨as, has, ws, hws, rfl⟩⟩

end

/-- the per-identifier counters never exceed the number of postings that name the identifier -/
def CntInv (cnt : List (Bytes × Nat)) (seen : List Bytes) : Prop := ∀ p ∈ cnt, p.2 ≤ seen.count p.1

theorem foldl_bump_cnt (ids : List Bytes) (cnt : List (Bytes × Nat)) (seen : List Bytes) (hinv : CntInv cnt seen) :
    CntInv (ids.foldl bump cnt) (seen ++ ids) := by
  induction ids generalizing cnt seen with
  | nil => rwa [List.append_nil]
  | cons id ids ih =>
    rw [List.foldl_cons, List.append_cons]
    refine ih _ _ fun p hp => ?_
    rw [List.count_append]
    rcases mem_bump hp with ⟨q, hq, hqp, hle⟩ | rfl
    · have := hinv q hq
      rw [hqp] at this
      omega
    · rw [List.count_singleton_self]
      exact Nat.le_add_left _ _

theorem encDb_cnt (K1 : Bytes) (db : DB) (I : ITable) (cnt : List (Bytes × Nat)) (seen : List Bytes)
    (I' : ITable) (cnt' : List (Bytes × Nat)) (h : encDb cfg lv K1 db I cnt = .ok (I', cnt'))
    (hinv : CntInv cnt seen) : CntInv cnt' (seen ++ db.flatMap (·.2)) := by
  obtain ⟨ws, _, hr⟩ := encDb_eq_ok.mp h
  cases hr
  exact foldl_bump_cnt _ _ _ hinv

theorem cap_of_count (K1 : Bytes) (db : DB) (hcap : ∀ id, (db.flatMap (·.2)).count id ≤ cfg.max) :
    ∀ I0 cnt, encDb cfg lv K1 db [] [] = .ok (I0, cnt) → ∀ p ∈ cnt, p.2 ≤ cfg.max := fun I0 cnt h p hp =>
  Nat.le_trans (encDb_cnt cfg lv K1 db [] [] [] I0 cnt h (fun _ hq => nomatch hq) p hp) (hcap p.1)

section
variable (hh : ∀ k m, (lv.hmac k m).length = 20) (hu : Usable cfg)
include hh hu

theorem setup_ok' (K1 : Bytes) (hK : (K1.length : Int) = cfg.k) (db : DB)
    (hdb : ∀ p ∈ db, (p.1.length : Int) ≤ cfg.l ∧ p.2.length < 2 ^ cfg.bitsNM)
    (hcap : ∀ id, (db.flatMap (·.2)).count id ≤ cfg.max) : ∃ I, setup cfg lv K1 db = .ok I := by
  obtain ⟨ws, hws⟩ := writes_returns cfg lv hh hu K1 hK db hdb
  have h : encDb cfg lv K1 db [] [] = .ok _ := encDb_eq_ok.mpr ⟨ws, hws, rfl⟩
  simp only [setup, h, ok_bind]
  split
  · -- the filler loop runs, and `hcap` leaves it nothing to add
    exact ⟨_, fillAll_noop _ _ (cap_of_count cfg lv K1 db hcap _ _ h)⟩
  · exact ⟨_, rfl⟩

end

end SSEPy.Sch.SSE2
