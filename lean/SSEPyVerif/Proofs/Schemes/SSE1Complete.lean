/-
  SSE-1, the error side: under `Usable`, with `param_s = 2^log2 s ≥ 4`, keys of `param_k` bytes, keywords of at most `param_l`
  bytes, no empty list and fewer than `param_s` postings, `EDBSetup` can only fail with `.miss`.  Every other step returns:
  a counter below `s` fits `log2 s` bits, ψ of it is below `2^log2 s = s`, a cell of the array (`psi_lt`), and
  `address ‖ key` is as long as the mask (`theta_returns`).
-/
import SSEPyVerif.Proofs.Schemes.SSE1Setup
namespace SSEPy.Sch.SSE1
open SSEPy.Sch

variable (cfg : SSE1Cfg) (lv : Leaves)

variable (hl : LeafLaws lv) (hu : Usable cfg) (h2 : 2 ≤ cfg.log2s)
include hl hu h2

theorem innerNodes_onlyMiss (K1 : Bytes) (hK : (K1.length : Int) = cfg.k) (ids : List Bytes) (prevKey : Bytes) (ctr : Nat)
    (first : Option Bitset) (A : List Bytes) (t : Tape) (hpk : (prevKey.length : Int) = cfg.k)
    (hA : A.length = 2 ^ cfg.log2s) (hc : ctr + ids.length ≤ 2 ^ cfg.log2s) :
    OnlyMiss (innerNodes cfg lv K1 ids prevKey ctr first A t) := by
  induction ids generalizing prevKey ctr first A t with
  | nil => exact OnlyMiss.ok _
  | cons id rest ih =>
    cases rest with
    | nil => exact OnlyMiss.ok _
    | cons id2 rest2 =>
      unfold innerNodes
      simp only [List.length_cons] at hc
      apply OnlyMiss.bind (takeBytes_onlyMiss _ t)
      intro ⟨kj, t1⟩ hkj
      obtain ⟨nxt, hnxt, nwf⟩ := psi_returns cfg lv hl.hmac_len h2 K1 hK (ctr + 1) (by omega)
      obtain ⟨ad, had, _⟩ := psi_returns cfg lv hl.hmac_len h2 K1 hK ctr (by omega)
      apply OnlyMiss.bind_ok hnxt
      apply OnlyMiss.bind_ok (Bitset.toBytes_eq nxt nwf)
      apply OnlyMiss.bind_ok had
      apply OnlyMiss.bind (skeEncrypt_onlyMiss cfg.ske1 lv hu.plain prevKey _ t1 (by rw [hpk, hu.skeKey]))
      intro ⟨c, t2⟩ _
      apply OnlyMiss.bind_ok (setCell_eq_ok.mpr ⟨hA ▸ psi_lt hl.hmac_len h2 had, rfl⟩)
      have hc' : ctr + 1 + (id2 :: rest2).length ≤ 2 ^ cfg.log2s := by
        rw [List.length_cons]
        omega
      exact ih kj (ctr + 1) _ _ t2 (hu.keyLen (takeBytes_len hkj)) (by simpa using hA) hc'

omit h2 in
/-- the mask `f_K2(w)` has `k + ⌈log2 s / 8⌉` bytes, as many as `address ‖ key` -/
theorem theta_returns (K2 : Bytes) (hK : (K2.length : Int) = cfg.k) (w : Bytes) (hw : (w.length : Int) ≤ cfg.l)
    {fa : Bitset} (fwf : fa.WF) (flen : fa.length = cfg.log2s) {k0 : Bytes} (hk0 : k0.length = cfg.k.toNat) :
    ∃ eta fb theta, cfg.prfF.call lv.hmac K2 (addLeadingZeros w cfg.l) = .ok eta ∧ fa.toBytes = .ok fb ∧
      bytesXor (fb ++ k0) eta = .ok theta := by
  have hml := addLeadingZeros_length hw
  obtain ⟨eta, he, hlen⟩ := prf_returns hl.hmac_len hu.fHash (key := K2) (msg := addLeadingZeros w cfg.l)
    (Or.inr (hu.fKey ▸ hK)) (Or.inr (hu.fMsg ▸ hml))
  refine ⟨eta, _, _, he, Bitset.toBytes_eq fa fwf, bytesXor_eq_ok.mpr ⟨?_, rfl⟩⟩
  rw [hlen, hu.fOutNat, List.length_append, toBE_length, flen, hk0, hu.lb]
  exact Nat.le_of_eq (Nat.add_comm _ _)

theorem encDb_onlyMiss (K1 K2 K3 : Bytes) (hK1 : (K1.length : Int) = cfg.k) (hK2 : (K2.length : Int) = cfg.k)
    (hK3 : (K3.length : Int) = cfg.k) (db : DB) (ctr : Nat) (A : List Bytes) (T : Table) (t : Tape)
    (hA : A.length = 2 ^ cfg.log2s) (hdb : ∀ p ∈ db, (p.1.length : Int) ≤ cfg.l ∧ p.2 ≠ [])
    (hc : ctr + db.total ≤ 2 ^ cfg.log2s) : OnlyMiss (encDb cfg lv K1 K2 K3 db ctr A T t) := by
  induction db generalizing ctr A T t with
  | nil => exact OnlyMiss.ok _
  | cons q rest ih =>
    obtain ⟨w, ids⟩ := q
    obtain ⟨hwl, hne⟩ := hdb (w, ids) List.mem_cons_self
    simp only at hwl hne
    rw [DB.total_cons] at hc
    dsimp only at hc
    unfold encDb
    apply OnlyMiss.bind (takeBytes_onlyMiss _ t)
    intro ⟨k0, t1⟩ hk0
    have hk0l := takeBytes_len hk0
    apply OnlyMiss.bind (innerNodes_onlyMiss cfg lv hl hu h2 K1 hK1 ids k0 ctr none A t1 (hu.keyLen hk0l) hA (by omega))
    intro ⟨lastKey, ctr1, first, A1, t2⟩ hin
    obtain ⟨ns, hI, rfl, rfl, _, rfl, _⟩ := innerNodes_inv hin
    have hn := hI.length hne
    apply OnlyMiss.bind_ok (a := ids.getLast hne) (by rw [List.getLast?_eq_some_getLast hne])
    obtain ⟨la, hla, _⟩ := psi_returns cfg lv hl.hmac_len h2 K1 hK1 (ctr + ns.length) (by omega)
    apply OnlyMiss.bind_ok hla
    apply OnlyMiss.bind (skeEncrypt_onlyMiss cfg.ske1 lv hu.plain lastKey _ t2
      (by rw [hu.skeKey, hu.keyLen (hI.lastKey_len hk0l)]))
    intro ⟨c, t3⟩ _
    have hlt : la.value < (store A ns).length := by
      rw [store_length, hA]
      exact psi_lt hl.hmac_len h2 hla
    apply OnlyMiss.bind_ok (setCell_eq_ok.mpr ⟨hlt, rfl⟩)
    obtain ⟨g, hg⟩ := piBytes_returns cfg lv hl.hmac_len hu.l8 K3 hK3 w hwl
    apply OnlyMiss.bind_ok hg
    obtain ⟨fwf, flen, _⟩ := psi_inv hl.hmac_len h2 (hI.first hla)
    obtain ⟨eta, fb, theta, heta, hfb, hth⟩ := theta_returns cfg lv hl hu K2 hK2 w hwl fwf flen hk0l
    apply OnlyMiss.bind_ok heta
    apply OnlyMiss.bind_ok hfb
    apply OnlyMiss.bind_ok hth
    exact ih (ctr + ns.length + 1) _ _ t3 (by simp [store_length, hA])
      (fun p hp => hdb p (List.mem_cons_of_mem _ hp)) (by omega)

omit hl hu h2 in
theorem fillA_onlyMiss (size : Nat) (A : List Bytes) (t : Tape) : OnlyMiss (fillA size A t) := by
  induction A generalizing t with
  | nil => exact OnlyMiss.ok _
  | cons c rest ih =>
    unfold fillA
    split
    · apply OnlyMiss.bind (takeBytes_onlyMiss size t)
      intro ⟨r, t1⟩ _
      apply OnlyMiss.bind (ih t1)
      intro ⟨more, t2⟩ _
      exact OnlyMiss.ok _
    · apply OnlyMiss.bind (ih t)
      intro ⟨more, t2⟩ _
      exact OnlyMiss.ok _

theorem setup_onlyMiss (K1 K2 K3 K4 : Bytes) (hK1 : (K1.length : Int) = cfg.k) (hK2 : (K2.length : Int) = cfg.k)
    (hK3 : (K3.length : Int) = cfg.k) (db : DB) (t : Tape) (hpow : cfg.s.toNat = 2 ^ cfg.log2s)
    (hdb : ∀ p ∈ db, (p.1.length : Int) ≤ cfg.l ∧ p.2 ≠ []) (hN : db.total < cfg.s.toNat) :
    OnlyMiss (setup cfg lv [K1, K2, K3, K4] db t) := by
  unfold setup
  apply OnlyMiss.bind (encDb_onlyMiss cfg lv hl hu h2 K1 K2 K3 hK1 hK2 hK3 db 1 _ [] t (by simp [hpow]) hdb (by omega))
  intro ⟨A, T, t1⟩ _
  have hzk : ((zeros cfg.k.toNat).length : Int) = cfg.ske1.keyLength := by
    rw [hu.skeKey]
    exact hu.keyLen (List.length_replicate ..)
  apply OnlyMiss.bind (skeEncrypt_onlyMiss cfg.ske1 lv hu.plain _ _ t1 hzk)
  intro ⟨probe, t2⟩ _
  apply OnlyMiss.bind (fillA_onlyMiss _ A t2)
  intro ⟨A', t3⟩ _
  apply OnlyMiss.bind (fillT_onlyMiss _ _ _ T t3)
  intro ⟨T', t4⟩ _
  exact OnlyMiss.ok _

end SSEPy.Sch.SSE1
