/-
  CT14.  A list is cut greedily into power-of-two chunks, one for every bit set in its length (`chunkAt`); `scan` is what the
  descending level scan of `search` collects.  `Setup` read backwards is `KwOK` for each keyword and `PaddedLevels` for the
  index; search correctness, the shape (C05) and the provenance (C04) are read off that.
-/
import SSEPyVerif.Proofs.Schemes.Levels
import SSEPyVerif.Proofs.Schemes.Cfg
namespace SSEPy.Sch

namespace CT14

structure Usable (cfg : CT14Cfg) : Prop where
  plain : PlainSke cfg.ske
  skeKey : cfg.ske.keyLength = cfg.kPrime
  fKey : cfg.prfF.keyLength = cfg.k
  fMsg : cfg.prfF.messageLength = LENGTH_UNLIMITED
  fOut : cfg.prfF.outputLength = cfg.k + cfg.kPrime
  fHash : cfg.prfF.hashLen = 20
  pKey : cfg.prfFPrime.keyLength = cfg.k
  pMsg : cfg.prfFPrime.messageLength = LENGTH_UNLIMITED
  pOut : cfg.prfFPrime.outputLength = cfg.l
  pHash : cfg.prfFPrime.hashLen = 20
  kpos : 0 < cfg.k
  kPpos : 0 < cfg.kPrime

structure Parsed (cfg : CT14Cfg) (raw : RawCfg) : Prop where
  positive : checkParamPositive raw = .ok ()
  exist : checkParamExist
    ["param_k", "param_k_prime", "param_l", "param_identifier_size", "prf_f", "prf_f_prime", "ske"] raw = .ok ()
  getK : getInt raw "param_k" = .ok cfg.k
  getKPrime : getInt raw "param_k_prime" = .ok cfg.kPrime
  getL : getInt raw "param_l" = .ok cfg.l
  getIdSize : getInt raw "param_identifier_size" = .ok cfg.idSize
  prfFName : isHmacPrfName (getName raw "prf_f") = true
  prfFPrimeName : isHmacPrfName (getName raw "prf_f_prime") = true
  skeName : isAesCbcName (getName raw "ske") = true
  ske : AESxCBC.new cfg.kPrime = .ok cfg.ske
  prfF : cfg.prfF = HmacPRF.new (cfg.k + cfg.kPrime) cfg.k LENGTH_UNLIMITED 20
  prfFPrime : cfg.prfFPrime = HmacPRF.new cfg.l cfg.k LENGTH_UNLIMITED 20

theorem cfgBuild_inv (cfg : CT14Cfg) (raw : RawCfg) (h : CT14.cfgBuild raw = .ok cfg) : Parsed cfg raw := by
  simp only [CT14.cfgBuild, ok_inv, Bool.not_eq_true', Bool.not_eq_false] at h
  obtain ⟨_, hpos, _, hex, k, hk, kp, hkp, l, hl, ids, hids, hf, hfp, hsn, ske, hske, h⟩ := h
  subst h
  exact
    { positive := hpos, exist := hex, getK := hk, getKPrime := hkp, getL := hl, getIdSize := hids,
      prfFName := hf, prfFPrimeName := hfp, skeName := hsn, ske := hske, prfF := rfl, prfFPrime := rfl }

theorem cfgBuild_usable (cfg : CT14Cfg) (raw : RawCfg) (h : CT14.cfgBuild raw = .ok cfg) : Usable cfg := by
  have p := cfgBuild_inv cfg raw h
  have pos := fun f z => param_pos _ raw f z p.positive p.exist
  have pk := pos "param_k" cfg.k (by decide +kernel) (by simp) p.getK
  have pkp := pos "param_k_prime" cfg.kPrime (by decide +kernel) (by simp) p.getKPrime
  have pl := pos "param_l" cfg.l (by decide +kernel) (by simp) p.getL
  obtain ⟨hplain, hkl⟩ := new_plain cfg.kPrime cfg.ske p.ske
  have hout : 0 < cfg.k + cfg.kPrime := by omega
  exact
    { plain := hplain, skeKey := hkl,
      fKey := congrArg HmacPRF.keyLength p.prfF
      fMsg := congrArg HmacPRF.messageLength p.prfF
      fOut := (congrArg HmacPRF.outputLength p.prfF).trans (HmacPRF.new_out hout)
      fHash := congrArg HmacPRF.hashLen p.prfF
      pKey := congrArg HmacPRF.keyLength p.prfFPrime
      pMsg := congrArg HmacPRF.messageLength p.prfFPrime
      pOut := (congrArg HmacPRF.outputLength p.prfFPrime).trans (HmacPRF.new_out pl)
      pHash := congrArg HmacPRF.hashLen p.prfFPrime
      kpos := pk, kPpos := pkp }

theorem token_eq_ok {cfg : CT14Cfg} {lv : Leaves} {K w K0 K1 : Bytes} :
    token cfg lv K w = .ok (K0, K1) ↔
      ∃ x, cfg.prfF.call lv.hmac K w = .ok x ∧ x.take cfg.k.toNat = K0 ∧ x.drop cfg.k.toNat = K1 := by
  simp only [token, ok_inv, Prod.mk.injEq]

/-- the hypotheses are fields of `Usable`, one by one: `C03.CT14.token_roundtrip` assumes just these -/
theorem token_lens {cfg : CT14Cfg} {lv : Leaves} (hl : LeafLaws lv) (hh : cfg.prfF.hashLen = 20)
    (hout : cfg.prfF.outputLength = cfg.k + cfg.kPrime) (hk : 0 ≤ cfg.k) (hk' : 0 ≤ cfg.kPrime) {K w K0 K1 : Bytes}
    (h : token cfg lv K w = .ok (K0, K1)) : K0.length = cfg.k.toNat ∧ K1.length = cfg.kPrime.toNat := by
  obtain ⟨x, hx, rfl, rfl⟩ := token_eq_ok.mp h
  have hxl := prf_len hl.hmac_len hh hx
  rw [hout, Int.toNat_add hk hk'] at hxl
  rw [List.length_take, List.length_drop, hxl, Nat.min_eq_left (Nat.le_add_right _ _), Nat.add_sub_cancel_left]
  exact ⟨rfl, rfl⟩

/-- the chunk of a list that lives at level `j`: present iff bit `j` of the length is set; it starts where the higher
    bits of the length end -/
def chunkAt (ids : List Bytes) (j : Nat) : List Bytes :=
  if 2 ^ j ≤ ids.length % 2 ^ (j + 1) then (ids.drop (ids.length - ids.length % 2 ^ (j + 1))).take (2 ^ j) else []

/-- the invariant of the chunk loop before level `j`, `c + n % 2^(j+1) = n`: the number `c` of identifiers already placed is `n`
    with the bits up to `j` cleared.  One round: `n % 2^(j+1)` is `n % 2^j`, plus `2^j` if bit `j` of `n` is set -/
theorem chunk_step {n j c : Nat} (hc : c + n % 2 ^ (j + 1) = n) :
    n - c = n % 2 ^ (j + 1) ∧ (n % 2 ^ (j + 1) < 2 ^ j → c + n % 2 ^ j = n) ∧
    (2 ^ j ≤ n % 2 ^ (j + 1) → c + 2 ^ j + n % 2 ^ j = n) := by
  have h := Nat.mod_pow_succ (x := n) (b := 2) (k := j)
  have hlt := Nat.mod_lt n (Nat.two_pow_pos j)
  refine ⟨Nat.sub_eq_of_eq_add (by rw [Nat.add_comm, hc]), ?_⟩
  rcases Nat.mod_two_eq_zero_or_one (n / 2 ^ j) with hb | hb
  · rw [hb, Nat.mul_zero, Nat.add_zero (n % 2 ^ j)] at h
    exact ⟨fun _ => by rw [← h, hc], fun hset => absurd hlt (Nat.not_lt.mpr (h ▸ hset))⟩
  · rw [hb, Nat.mul_one] at h
    exact ⟨fun hclear => absurd hclear (Nat.not_lt.mpr (h ▸ Nat.le_add_left _ _)),
      fun _ => by rw [Nat.add_assoc, Nat.add_comm (2 ^ j), ← h, hc]⟩

/-- the invariant at the start of the loop, level `⌊log2 n⌋ + 1` -/
theorem chunk_start (n : Nat) : 0 + n % 2 ^ (Nat.log2 n + 1) = n := by
  rw [Nat.mod_eq_of_lt Nat.lt_log2_self, Nat.zero_add]

theorem chunkAt_of_set {ids : List Bytes} {j c : Nat} (hc : c + ids.length % 2 ^ (j + 1) = ids.length)
    (hb : 2 ^ j ≤ ids.length % 2 ^ (j + 1)) : chunkAt ids j = (ids.drop c).take (2 ^ j) := by
  rw [chunkAt, if_pos hb, Nat.sub_eq_of_eq_add hc.symm]

theorem chunkAt_of_clear {ids : List Bytes} {j : Nat} (hb : ids.length % 2 ^ (j + 1) < 2 ^ j) : chunkAt ids j = [] := by
  rw [chunkAt, if_neg (Nat.not_le.mpr hb)]

theorem chunkAt_length {ids : List Bytes} {j : Nat} (h : 2 ^ j ≤ ids.length % 2 ^ (j + 1)) : (chunkAt ids j).length = 2 ^ j := by
  rw [chunkAt, if_pos h, List.length_take, List.length_drop, Nat.sub_sub_self (Nat.mod_le _ _), Nat.min_eq_left h]

theorem mem_of_mem_chunkAt {ids : List Bytes} {j : Nat} {x : Bytes} (h : x ∈ chunkAt ids j) : x ∈ ids := by
  unfold chunkAt at h
  split at h
  · exact List.mem_of_mem_drop (List.mem_of_mem_take h)
  · cases h

/-- the chunks of the levels `J-1`, …, 0, concatenated in this order: what `search` collects below level `J` -/
def scan (ids : List Bytes) : Nat → List Bytes
  | 0 => []
  | J + 1 => chunkAt ids J ++ scan ids J

theorem scan_eq (ids : List Bytes) (J c : Nat) (hc : c + ids.length % 2 ^ J = ids.length) : scan ids J = ids.drop c := by
  induction J generalizing c with
  | zero =>
    rw [Nat.pow_zero, Nat.mod_one, Nat.add_zero] at hc
    rw [scan, hc, List.drop_length]
  | succ J ih =>
    obtain ⟨_, hclear, hset⟩ := chunk_step hc
    rw [scan]
    rcases Nat.lt_or_ge (ids.length % 2 ^ (J + 1)) (2 ^ J) with hb | hb
    · rw [chunkAt_of_clear hb, ih _ (hclear hb), List.nil_append]
    · rw [chunkAt_of_set hc hb, ih _ (hset hb), ← List.drop_drop]
      exact List.take_append_drop _ _

theorem scan_all (ids : List Bytes) (J : Nat) (h : ids.length < 2 ^ J) : scan ids J = ids :=
  scan_eq ids J 0 (by rw [Nat.mod_eq_of_lt h, Nat.zero_add])

theorem lt_two_pow_log2_succ (n : Nat) : n < 2 ^ (Nat.log2 n + 1) := Nat.lt_log2_self

theorem bit_lt_log2_succ {n p : Nat} (h : 2 ^ p ≤ n % 2 ^ (p + 1)) : p < Nat.log2 n + 1 := by
  have hle : 2 ^ p ≤ n := Nat.le_trans h (Nat.mod_le _ _)
  have hn : n ≠ 0 := Nat.ne_of_gt (Nat.lt_of_lt_of_le (Nat.two_pow_pos p) hle)
  exact Nat.lt_succ_of_le ((Nat.le_log2 hn).mpr hle)

theorem log2_bit {n : Nat} (h : n ≠ 0) : 2 ^ Nat.log2 n ≤ n % 2 ^ (Nat.log2 n + 1) := by
  rw [Nat.mod_eq_of_lt Nat.lt_log2_self]
  exact Nat.log2_self_le h

variable (cfg : CT14Cfg) (lv : Leaves)

/-- `x` is the entry of a keyword on level `j`: the label `F'(Kw0, j)` and the encrypted chunk of that level -/
structure Chunk (t : Tape) (Kw0 Kw1 : Bytes) (ids : List Bytes) (j : Nat) (x : Bytes × Bytes) : Prop where
  label : cfg.prfFPrime.call lv.hmac Kw0 (natToBytesMin j) = .ok x.1
  value : Block cfg.ske lv t Kw1 (chunkAt ids j) x.2

/-- a keyword's token and the entries `encDb` pushes for it, each with its level -/
structure Kw where
  Kw0 : Bytes
  Kw1 : Bytes
  es : List (Nat × Bytes × Bytes)

/-- `r` is what `encDb` computes for the keyword `q.1` with list `q.2`, the draws on `t`: to every level whose bit is set in
    the list length exactly one entry, the chunk of that level; to the others nothing -/
structure KwOK (K : Bytes) (t : Tape) (q : Bytes × List Bytes) (r : Kw) : Prop where
  nonempty : q.2.length ≠ 0
  token : token cfg lv K q.1 = .ok (r.Kw0, r.Kw1)
  set : ∀ p, 2 ^ p ≤ q.2.length % 2 ^ (p + 1) → ∃ x, atLevel r.es p = [x] ∧ Chunk cfg lv t r.Kw0 r.Kw1 q.2 p x
  clear : ∀ p, q.2.length % 2 ^ (p + 1) < 2 ^ p → atLevel r.es p = []

variable {cfg lv}

theorem Chunk.mono {t t' : Tape} {Kw0 Kw1 : Bytes} {ids : List Bytes} {j : Nat} {x : Bytes × Bytes} (hs : Suffix t' t)
    (h : Chunk cfg lv t' Kw0 Kw1 ids j x) : Chunk cfg lv t Kw0 Kw1 ids j x :=
  { h with value := h.value.mono hs }

theorem KwOK.mono {K : Bytes} {t t' : Tape} {q : Bytes × List Bytes} {r : Kw} (hs : Suffix t' t)
    (h : KwOK cfg lv K t' q r) : KwOK cfg lv K t q r :=
  { h with set := fun p hb => (h.set p hb).imp fun _ ⟨hx, hchunk⟩ => ⟨hx, hchunk.mono hs⟩ }

theorem entry_is_chunk {K : Bytes} {t : Tape} {db : DB} {kws : List Kw} {j : Nat} {x : Bytes × Bytes}
    (h : Forall₂ (KwOK cfg lv K t) db kws) (hm : (j, x) ∈ kws.flatMap Kw.es) :
    ∃ q ∈ db, 2 ^ j ≤ q.2.length % 2 ^ (j + 1) ∧ ∃ Kw0 Kw1, Chunk cfg lv t Kw0 Kw1 q.2 j x := by
  obtain ⟨r, hr, hm⟩ := List.mem_flatMap.mp hm
  obtain ⟨q, hq, hk⟩ := h.of_mem_right hr
  have hm := mem_atLevel.mpr hm
  rcases Nat.lt_or_ge (q.2.length % 2 ^ (j + 1)) (2 ^ j) with hb | hb
  · rw [hk.clear j hb] at hm
    cases hm
  · obtain ⟨y, hy, hch⟩ := hk.set j hb
    rw [hy, List.mem_singleton] at hm
    exact ⟨q, hq, hb, r.Kw0, r.Kw1, hm ▸ hch⟩

theorem chunkLoop_inv {Kw0 Kw1 : Bytes} {ids : List Bytes} {j1 c : Nat} {Ls Ls' : List (List (Bytes × Bytes))} {t t' : Tape}
    (h : chunkLoop cfg lv Kw0 Kw1 ids j1 c Ls t = .ok (Ls', t')) (hc : c + ids.length % 2 ^ j1 = ids.length) :
    ∃ es, pushAll es Ls = .ok Ls' ∧ Suffix t' t ∧
      (∀ p, p < j1 → 2 ^ p ≤ ids.length % 2 ^ (p + 1) → ∃ x, atLevel es p = [x] ∧ Chunk cfg lv t Kw0 Kw1 ids p x) ∧
      ∀ p, ¬ (p < j1 ∧ 2 ^ p ≤ ids.length % 2 ^ (p + 1)) → atLevel es p = [] := by
  induction j1 generalizing c Ls t with
  | zero => cases h; exact ⟨[], rfl, .refl _, nofun, fun _ _ => rfl⟩
  | succ j ih =>
    obtain ⟨hrem, hclear, hset⟩ := chunk_step hc
    simp only [chunkLoop, hrem, ok_inv] at h
    rcases h with ⟨hgt, h⟩ | ⟨hfit, ⟨cs, t1⟩, hcs, l, hl, Ls1, hpush, h⟩
    · -- bit j clear
      obtain ⟨es, hf, hs, hone, hnone⟩ := ih h (hclear hgt)
      refine ⟨es, hf, hs, fun p hp hb => hone p ?_ hb, fun p hn => hnone p fun hp => hn ⟨Nat.lt_succ_of_lt hp.1, hp.2⟩⟩
      rcases Nat.lt_succ_iff_lt_or_eq.mp hp with hp | rfl
      · exact hp
      · exact absurd hb (Nat.not_le.mpr hgt)
    · -- bit j set
      dsimp only at h
      have hbit := Nat.not_lt.mp hfit
      obtain ⟨es, hf, hs, hone, hnone⟩ := ih h (hset hbit)
      obtain ⟨e1, s1⟩ := encAll_block hcs
      have hchunk : Chunk cfg lv t Kw0 Kw1 ids j (l, cs.flatten) :=
        { label := hl, value := chunkAt_of_set hc hbit ▸ e1 }
      refine ⟨(j, l, cs.flatten) :: es, pushAll_cons.mpr ⟨Ls1, hpush, hf⟩, hs.trans s1,
        fun p hlt hb => ?_, fun p hn => ?_⟩
      · rw [atLevel_cons]
        by_cases hp : j = p
        · subst hp
          rw [if_pos rfl, hnone j fun hn => Nat.lt_irrefl _ hn.1]
          exact ⟨_, rfl, hchunk⟩
        · rw [if_neg hp]
          obtain ⟨x, hx, hch⟩ := hone p (Nat.lt_of_le_of_ne (Nat.le_of_lt_succ hlt) (Ne.symm hp)) hb
          exact ⟨x, hx, hch.mono s1⟩
      · by_cases hp : j = p
        · subst hp
          exact (hn ⟨Nat.lt_succ_self _, hbit⟩).elim
        · rw [atLevel_cons, if_neg hp]
          exact hnone p fun hq => hn ⟨Nat.lt_succ_of_lt hq.1, hq.2⟩

theorem encDb_inv {K : Bytes} {db : DB} {Ls Ls' : List (List (Bytes × Bytes))} {t t' : Tape}
    (h : encDb cfg lv K db Ls t = .ok (Ls', t')) :
    ∃ kws, Forall₂ (KwOK cfg lv K t) db kws ∧ pushAll (kws.flatMap Kw.es) Ls = .ok Ls' ∧ Suffix t' t := by
  induction db generalizing Ls t with
  | nil => cases h; exact ⟨[], .nil, rfl, .refl _⟩
  | cons q rest ih =>
    obtain ⟨w, ids⟩ := q
    simp only [encDb, ok_inv] at h
    obtain ⟨⟨Kw0, Kw1⟩, htk, hne, ⟨Ls1, t1⟩, hcl, h⟩ := h
    dsimp only at hcl h
    obtain ⟨es, hf1, s1, hone, hnone⟩ := chunkLoop_inv hcl (chunk_start _)
    obtain ⟨kws, hrest, hf2, s2⟩ := ih h
    -- every set bit of the length lies below the start level of the loop, so the loop's two facts hold of every level
    have hkw : KwOK cfg lv K t (w, ids) ⟨Kw0, Kw1, es⟩ :=
      { nonempty := hne
        token := htk
        set := fun p hb => hone p (bit_lt_log2_succ hb) hb
        clear := fun p hb => hnone p fun hn => Nat.lt_irrefl _ (Nat.lt_of_lt_of_le hb hn.2) }
    exact ⟨⟨Kw0, Kw1, es⟩ :: kws, .cons hkw (hrest.imp fun _ _ hk => hk.mono s1), pushAll_append hf1 hf2, s2.trans s1⟩

theorem setup_inv {K : Bytes} {db : DB} {t t' : Tape} {HT : List Table} (h : setup cfg lv K db t = .ok (HT, t')) :
    ∃ TL, setupLists cfg lv K db t = .ok (TL, t') ∧ HT = TL.map buildTable := by
  simp only [setup, ok_inv] at h
  obtain ⟨⟨TL, t1⟩, h1, h⟩ := h
  cases h
  exact ⟨TL, h1, rfl⟩

theorem setupLists_inv (hE : BlockLen lv) {K : Bytes} {db : DB} {t t' : Tape} {TL : List (List (Bytes × Bytes))}
    (h : setupLists cfg lv K db t = .ok (TL, t')) :
    ∃ (pdb : DB) (t1 : Tape) (kws : List Kw),
      padLoop cfg.idSize.toNat (2 ^ clog2 db.total) (2 ^ clog2 db.total + 1) db db.total t = .ok (pdb, t1) ∧
      Forall₂ (KwOK cfg lv K t) pdb kws ∧
      PaddedLevels t (kws.flatMap Kw.es) TL (clog2 db.total + 1) cfg.l.toNat (fun j => 2 ^ (clog2 db.total - j)) fun j => 2 ^ j * clen cfg := by
  simp only [setupLists, ok_inv] at h
  obtain ⟨_, ⟨pdb, t1⟩, h1, ⟨Ls, t2⟩, h2, h3⟩ := h
  dsimp only at h2 h3
  have s1 := padLoop_suffix h1
  obtain ⟨kws, hkws, hpush, s2⟩ := encDb_inv h2
  obtain ⟨_, hlev⟩ := pushAll_padLevels_inv hE hpush h3
  exact ⟨pdb, t1, kws, h1, hkws.imp fun _ _ hk => hk.mono s1, hlev.mono (s2.trans s1)⟩

theorem searchLevels_scan (K0 K1 : Bytes) (HT : List Table) (ids : List Bytes) (i1 : Nat)
    (hset : ∀ j, j < i1 → 2 ^ j ≤ ids.length % 2 ^ (j + 1) →
      ∃ l v cs, cfg.prfFPrime.call lv.hmac K0 (natToBytesMin j) = .ok l ∧ (HT[j]?).bind (·.get l) = some v ∧
        parseByCount v ((2 ^ j : Nat) : Int) = .ok cs ∧ decAll cfg.ske lv K1 cs = .ok (chunkAt ids j))
    (hclear : ∀ j, j < i1 → ids.length % 2 ^ (j + 1) < 2 ^ j →
      ∃ l, cfg.prfFPrime.call lv.hmac K0 (natToBytesMin j) = .ok l ∧ (HT[j]?).bind (·.get l) = none) :
    searchLevels cfg lv K0 K1 HT i1 = .ok (scan ids i1) := by
  induction i1 with
  | zero => rfl
  | succ i ih =>
    have hrest := ih (fun j hj => hset j (Nat.lt_succ_of_lt hj)) (fun j hj => hclear j (Nat.lt_succ_of_lt hj))
    rw [searchLevels, scan]
    rcases Nat.lt_or_ge (ids.length % 2 ^ (i + 1)) (2 ^ i) with hb | hb
    · obtain ⟨l, hl, hnone⟩ := hclear i (Nat.lt_succ_self i) hb
      simp only [hl, hnone, hrest, chunkAt_of_clear hb, ok_bind, pure_eq, List.nil_append]
    · obtain ⟨l, v, cs, hl, hsome, hparse, hdec⟩ := hset i (Nat.lt_succ_self i) hb
      simp only [hl, hsome, hparse, hdec, hrest, ok_bind, pure_eq]

variable (cfg lv) in
/-- the no-collision hypotheses of the CT14 theorem for one run: the labels of every level are distinct, and at every
    level where the keyword has no chunk its label is not stored -/
def NoColl (K : Bytes) (TL : List (List (Bytes × Bytes))) (w : Bytes) (ids : List Bytes) : Prop :=
  (∀ l ∈ TL, (l.map (·.1)).Nodup) ∧
  ∀ Kw0 Kw1, token cfg lv K w = .ok (Kw0, Kw1) → ∀ j, j < TL.length → ids.length % 2 ^ (j + 1) < 2 ^ j →
    ∃ l, cfg.prfFPrime.call lv.hmac Kw0 (natToBytesMin j) = .ok l ∧ ∀ lst, TL[j]? = some lst → l ∉ lst.map (·.1)

theorem search_present (hE : BlockLen lv) (hde : Decrypts cfg.ske lv) {K : Bytes} {db : DB} {t t' : Tape} {HT : List Table}
    (hs : setup cfg lv K db t = .ok (HT, t')) (hg : GoodTape t) (w : Bytes) (ids : List Bytes) (hidl : ∀ x ∈ ids, x.length = cfg.idSize.toNat)
    (hpad : ∀ pdb t1, padLoop cfg.idSize.toNat (2 ^ clog2 db.total) (2 ^ clog2 db.total + 1) db db.total t = .ok (pdb, t1) →
      (w, ids) ∈ pdb)
    (hnc : ∀ TL, setupLists cfg lv K db t = .ok (TL, t') → NoColl cfg lv K TL w ids) :
    ∃ tk, token cfg lv K w = .ok tk ∧ search cfg lv HT tk = .ok ids := by
  obtain ⟨TL, hr, rfl⟩ := setup_inv hs
  obtain ⟨hTLn, hclr⟩ := hnc TL hr
  obtain ⟨pdb, t1, kws, h1, hkws, hlev⟩ := setupLists_inv hE hr
  obtain ⟨r, hr, hk⟩ := hkws.of_mem_left (hpad pdb t1 h1)
  refine ⟨(r.Kw0, r.Kw1), hk.token, ?_⟩
  have hmem : ∀ j, 2 ^ j ≤ ids.length % 2 ^ (j + 1) →
      ∃ x, (j, x) ∈ kws.flatMap Kw.es ∧ Chunk cfg lv t r.Kw0 r.Kw1 ids j x := by
    intro j hb
    obtain ⟨x, hx, hc⟩ := hk.set j hb
    have hxr : (j, x) ∈ r.es := mem_atLevel.mp (hx ▸ List.mem_singleton_self x)
    exact ⟨x, List.mem_flatMap.mpr ⟨r, hr, hxr⟩, hc⟩
  -- the top bit of the length is set, so its level exists and the scan covers the whole list
  have hcover : ids.length < 2 ^ TL.length := by
    obtain ⟨x, hx, _⟩ := hmem _ (log2_bit hk.nonempty)
    exact Nat.lt_of_lt_of_le Nat.lt_log2_self (Nat.pow_le_pow_right (by decide) (hlev.get hTLn hx).1)
  unfold search
  rw [searchLevels_scan r.Kw0 r.Kw1 (TL.map buildTable) ids (TL.map buildTable).length ?_ ?_, List.length_map,
    scan_all ids TL.length hcover]
  · intro j _ hb
    obtain ⟨x, hx, hch⟩ := hmem j hb
    obtain ⟨cs, hparse, hdec⟩ := hch.value.read hE hde hg (fun y hy => hidl y (mem_of_mem_chunkAt hy))
      (chunkAt_length hb ▸ Nat.two_pow_pos j)
    rw [chunkAt_length hb] at hparse
    exact ⟨x.1, x.2, cs, hch.label, (hlev.get hTLn hx).2, hparse, hdec⟩
  · intro j hj hb
    rw [List.length_map] at hj
    obtain ⟨l, hl, hfresh⟩ := hclr r.Kw0 r.Kw1 hk.token j hj hb
    exact ⟨l, hl, level_get_none hfresh⟩

/-- level `p` gets at most `N / 2^p` entries: a keyword with an entry there has at least `2^p` identifiers -/
theorem level_count_le {K : Bytes} {t : Tape} {db : DB} {kws : List Kw}
    (h : Forall₂ (KwOK cfg lv K t) db kws) (p : Nat) : (atLevel (kws.flatMap Kw.es) p).length * 2 ^ p ≤ db.total := by
  induction h with
  | nil =>
    rw [List.flatMap_nil, atLevel_nil, List.length_nil, Nat.zero_mul]
    exact Nat.zero_le _
  | @cons q r _ _ hk _ ih =>
    have hq : (atLevel r.es p).length * 2 ^ p ≤ q.2.length := by
      rcases Nat.lt_or_ge (q.2.length % 2 ^ (p + 1)) (2 ^ p) with hb | hb
      · rw [hk.clear p hb, List.length_nil, Nat.zero_mul]
        exact Nat.zero_le _
      · obtain ⟨x, hx, _⟩ := hk.set p hb
        rw [hx, List.length_singleton, Nat.one_mul]
        exact Nat.le_trans hb (Nat.mod_le _ _)
    rw [List.flatMap_cons, atLevel_append, List.length_append, Nat.add_mul, DB.total_cons]
    exact Nat.add_le_add hq ih

theorem Chunk.lens (hl : LeafLaws lv) (hu : Usable cfg) {t : Tape} {Kw0 Kw1 : Bytes} {ids : List Bytes} {j : Nat} {x : Bytes × Bytes}
    (h : Chunk cfg lv t Kw0 Kw1 ids j x) (hb : 2 ^ j ≤ ids.length % 2 ^ (j + 1)) (hidl : ∀ y ∈ ids, y.length = cfg.idSize.toNat) :
    x.1.length = cfg.l.toNat ∧ x.2.length = 2 ^ j * clen cfg := by
  refine ⟨by rw [prf_len hl.hmac_len hu.pHash h.label, hu.pOut], ?_⟩
  rw [clen, h.value.length hl.enc_len fun y hy => hidl y (mem_of_mem_chunkAt hy), chunkAt_length hb]

theorem setupLists_shape (hl : LeafLaws lv) (hu : Usable cfg) {K : Bytes} {db : DB} {t t' : Tape} {TL : List (List (Bytes × Bytes))}
    (h : setupLists cfg lv K db t = .ok (TL, t'))
    (hidl : ∀ p ∈ db, ∀ x ∈ p.2, x.length = cfg.idSize.toNat) (hfresh : (db.map (·.1) ++ draws32 t).Nodup) :
    TL.length = clog2 db.total + 1 ∧
    ∀ j L, TL[j]? = some L → L.length = 2 ^ (clog2 db.total - j) ∧ EntLens L cfg.l.toNat (2 ^ j * clen cfg) := by
  obtain ⟨pdb, t1, kws, h1, hkws, hlev⟩ := setupLists_inv hl.enc_len h
  obtain ⟨p1, p2⟩ := padLoop_total h1 rfl (le_two_pow_clog2 _) hfresh hidl
  refine ⟨hlev.length, hlev.shape (fun j hj => le_two_pow_sub (p1 ▸ level_count_le hkws j) (Nat.le_of_lt_succ hj)) ?_⟩
  rintro ⟨j, x⟩ he
  obtain ⟨q, hq, hb, _, _, hch⟩ := entry_is_chunk hkws he
  exact hch.lens hl hu hb (p2 q hq)

theorem setup_fromTape (hE : BlockLen lv) {K : Bytes} {db : DB} {t t' : Tape} {HT : List Table}
    (h : setup cfg lv K db t = .ok (HT, t')) : ∀ T ∈ HT, ∀ p ∈ T, FromTape t p.2 := by
  obtain ⟨TL, hr, rfl⟩ := setup_inv h
  obtain ⟨pdb, t1, kws, _, hkws, hlev⟩ := setupLists_inv hE hr
  have hall : AllFrom t TL := hlev.allFrom fun ⟨j, x⟩ he => by
    obtain ⟨q, _, hb, _, _, hch⟩ := entry_is_chunk hkws he
    exact .of_stamped (hch.value.stamped hE (chunkAt_length hb ▸ Nat.two_pow_pos _))
  intro T hT p hp
  obtain ⟨L, hL, rfl⟩ := List.mem_map.mp hT
  exact hall L hL p (mem_buildTable L p hp)

end CT14
end SSEPy.Sch
