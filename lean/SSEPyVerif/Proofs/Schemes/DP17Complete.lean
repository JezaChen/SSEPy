/-
  DP17: what `Setup` can raise.  With room in every level (DP17Room) the keyword loop of `_Enc` raises only `.miss` or what
  the hash-table update raises, and that fails only where a PRF call or the encoding of a level number or bucket index
  fails (`htInsert_error_inv`); under the hypotheses of `setup_onlyMiss` only `.miss` is left.  The rules of DP17.lean
  speak of a run that returned, so the two loops that can raise something else are walked here.
-/
import SSEPyVerif.Proofs.Schemes.DP17Room
namespace SSEPy.Sch.DP17
open SSEPy.Sch

variable (cfg : DP17Cfg) (lv : Leaves)

theorem cfgBuild_usable (raw : RawCfg) (h : DP17.cfgBuild raw = .ok cfg) :
    KeysFit cfg.prfF cfg.rnd cfg.lambda ∧ 0 < cfg.L := by
  have p := cfgBuild_inv cfg raw h
  have hk : KeysFit cfg.prfF cfg.rnd cfg.lambda := keysFit_of_new p.rnd p.prfF
  -- `param_L` is on the list of the existence check (so not -1) and a `param_` name (so no other value ≤ 0)
  have hLpos : 0 < cfg.L :=
    param_pos _ raw "param_L" cfg.L p.positive p.exist (hpre := by decide +kernel) (hf := by simp) p.getL
  exact ⟨hk, hLpos⟩

/-- one step, read for its failures in the order of the code (no bucket with room, the tape, a choice that is no candidate,
    the hash-table update, the rest of the loop): the right side is the normal form of the left -/
theorem placeChunks_cons_eq_error {k1 k2 w : Bytes} {i : Nat} {c : List Bytes} {rest : List (List Bytes)} {count : Nat}
    {lvl : Level} {HT : Table} {t : Tape} {e : Err} :
    placeChunks cfg lv k1 k2 w i (c :: rest) count lvl HT t = .error e ↔
      (cands i lvl = [] ∧ .indexError = e) ∨ (cands i lvl ≠ [] ∧ (takeNat t = .error e ∨ ∃ x t1, takeNat t = .ok (x, t1) ∧
        ((x ∉ cands i lvl ∧ .miss = e) ∨ (x ∈ cands i lvl ∧ (htInsert cfg lv k1 k2 w (count + 1) i x c HT = .error e ∨
          ∃ HT1, htInsert cfg lv k1 k2 w (count + 1) i x c HT = .ok HT1 ∧
            placeChunks cfg lv k1 k2 w i rest (count + 1) (put w lvl x c) HT1 t1 = .error e))))) := by
  -- the step of the model, with `cands` and `put` for its own expressions, read for `.error e` line by line
  simp only [placeChunks, cands, put, bind_eq_error, ite_eq_error, throw_eq_error]
  -- the Boolean tests as propositions; a test that passes raises nothing
  simp only [List.isEmpty_iff, Bool.not_eq_true', List.contains_eq_mem, decide_eq_false_iff_not, Decidable.not_not,
    reduceCtorEq, false_and, exists_false, or_false, Prod.exists, ne_eq]

/-- `Q` is the set of errors allowed: `· = .miss` for `setup_onlyMiss`, `· ≠ .indexError` for C01
    `room_for_every_chunk_partial` -/
theorem placeChunks_raises (Q : Err → Prop) (hmiss : Q .miss) {N : Nat} {k1 k2 w : Bytes} {i : Nat}
    {cw : List (List Bytes)} {count placed : Nat} {lvl : Level} {HT : Table} {t : Tape}
    (hlev : lvl.lev = (i : Int)) (hinv : LInv N placed lvl)
    (hN : placed + (cw.map List.length).sum ≤ N) (hcl : ∀ c ∈ cw, c.length ≤ 2 ^ i)
    (hht : ∀ {count x c HT e}, x < (sizesOf N (i : Int)).length → htInsert cfg lv k1 k2 w count i x c HT = .error e → Q e)
    {e : Err} (h : placeChunks cfg lv k1 k2 w i cw count lvl HT t = .error e) : Q e := by
  induction cw generalizing count placed lvl HT t with
  | nil => cases h
  | cons c rest ih =>
    simp only [List.map_cons, List.sum_cons] at hN
    rcases (placeChunks_cons_eq_error cfg lv).mp h with ⟨he, _⟩ | ⟨_, hstep⟩
    · -- no bucket with room: excluded, since at most `N` identifiers are placed
      have hp : placed ≤ N := by omega
      exact absurd he (cands_nonempty hlev hinv hp)
    rcases hstep with hr | ⟨x, t1, _, hchoice⟩
    · rw [takeNat_onlyMiss t e hr]
      exact hmiss
    rcases hchoice with ⟨_, rfl⟩ | ⟨hx, hins⟩
    · exact hmiss
    rcases hins with hi | ⟨HT1, _, h⟩
    · -- the hash-table update, for a bucket index below the number of buckets of level `i`
      have hxlt : x < (sizesOf N (i : Int)).length := by
        rw [← hlev, ← hinv.binv.buckets]
        exact cands_lt hinv.binv.wfl hx
      exact hht hxlt hi
    · have hc : c.length ≤ 2 ^ i := hcl c List.mem_cons_self
      exact ih (placed := placed + c.length) (lvl := put w lvl x c) hlev (hinv.put hx hc) (by omega)
        (fun c' hc' => hcl c' (List.mem_cons_of_mem _ hc')) h

theorem encDb_cons_eq {k1 k2 : Bytes} {levels : List Int} {w : Bytes} {ids : List Bytes} {rest : DB} {ls : List Level}
    {HT : Table} {t : Tape} {i : Nat} {lvl : Level} {cw : List (List Bytes)}
    (hi : findAdjacent cfg levels ids.length = .ok (i : Int)) (hget : getLevel ls i = some lvl)
    (hcw : chunks ids (2 ^ i) = .ok cw) :
    encDb cfg lv k1 k2 levels ((w, ids) :: rest) ls HT t =
      (do let (lvl1, HT1, t1) ← placeChunks cfg lv k1 k2 w i cw 0 lvl HT t
          encDb cfg lv k1 k2 levels rest (setLevel ls lvl1) HT1 t1) := by
  have hnn : ¬ ((i : Int) < 0) := by omega
  simp only [encDb, hi, hnn, getLevelE_eq_ok.mpr hget, hcw, Int.toNat_natCast, ok_bind, if_false]

theorem encDb_raises (Q : Err → Prop) (hmiss : Q .miss) {N : Nat} {k1 k2 : Bytes} {levels : List Int} {db : DB} {placed : Nat}
    {ls : List Level} {HT : Table} {t : Tape} (hinv : ∀ l ∈ ls, LInv N placed l) (hN : placed + db.total ≤ N)
    (hhas : ∀ i ∈ levels, i ∈ ls.map (·.lev))
    (hfa : ∀ p ∈ db, ∃ i : Nat, findAdjacent cfg levels p.2.length = .ok (i : Int))
    (hht : ∀ {w count} {i : Nat} {x c HT e}, (i : Int) ∈ levels → x < (sizesOf N (i : Int)).length →
      htInsert cfg lv k1 k2 w count i x c HT = .error e → Q e)
    {e : Err} (h : encDb cfg lv k1 k2 levels db ls HT t = .error e) : Q e := by
  induction db generalizing placed ls HT t with
  | nil => cases h
  | cons q rest ih =>
    obtain ⟨w0, ids0⟩ := q
    obtain ⟨i, hi⟩ := hfa (w0, ids0) List.mem_cons_self
    have himem : (i : Int) ∈ levels := (findAdjacent_inv cfg hi).1
    obtain ⟨lvl, hget⟩ := Option.isSome_iff_exists.mp (getLevel_isSome.mpr (hhas _ himem))
    have hcw := chunks_eq ids0 (Nat.two_pow_pos i)
    generalize chunksFuel ids0.length ids0 (2 ^ i) = cw at hcw
    obtain ⟨_, hflat, _, hcs⟩ := chunks_inv hcw
    have hsum : (cw.map List.length).sum = ids0.length := by rw [← List.length_flatten, hflat]
    simp only [DB.total_cons] at hN
    have hl := hinv lvl (getLevel_mem hget)
    have hcl : ∀ c ∈ cw, c.length ≤ 2 ^ i := fun c hc => (hcs c hc).2
    rw [encDb_cons_eq cfg lv hi hget hcw, bind_eq_error] at h
    rcases h with hp | ⟨⟨lvl1, HT1, t1⟩, hp, h⟩
    · exact placeChunks_raises cfg lv Q hmiss (getLevel_lev hget) hl (by omega) hcl (hht himem) hp
    · have hlvl1 : LInv N (placed + ids0.length) lvl1 := hsum ▸ hl.placeChunks cfg lv hcl hp
      -- the other levels hold what they held; the count of all postings placed has grown
      have hrest : ∀ l ∈ ls, LInv N (placed + ids0.length) l := fun l hl' => (hinv l hl').of_le (Nat.le_add_right _ _)
      exact ih (placed := placed + ids0.length) (forall_setLevel hrest hlvl1) (by omega) (by rwa [setLevel_levs])
        (fun p hp' => hfa p (List.mem_cons_of_mem _ hp')) h

theorem htInsert_error_inv {d : Nat} (hsha : ShaLen lv d) {k1 k2 w : Bytes} {count i x : Nat} {c : List Bytes} {HT : Table}
    {e : Err} (h : htInsert cfg lv k1 k2 w count i x c HT = .error e) :
    cfg.prfF.call lv.hmac k1 w = .error e ∨ cfg.prfF.call lv.hmac k2 w = .error e ∨
    intToBytesNat i (cfg.dsz / 2) = .error e ∨ intToBytesNat x (cfg.dsz - cfg.dsz / 2) = .error e := by
  unfold htInsert at h
  split at h
  · cases h
  simp only [htKey, htVal, bind_eq_error, ok_inv, pure, Except.pure, reduceCtorEq, and_false, exists_false,
    or_false] at h
  have hH : ∀ m, hashH cfg lv m ≠ .error e := fun m he => by
    obtain ⟨r, hr, _⟩ := hashH_returns cfg lv hsha m
    rw [hr] at he; cases he
  rcases h with hkey | ⟨_, _, hval⟩
  · -- the key: `F_k1(w)`, then the hash, which returns
    rcases hkey with h | ⟨_, _, h⟩
    · exact .inl h
    · exact absurd h (hH _)
  -- the value, in the order of the code: the level number, the bucket index, `F_k2(w)`
  rcases hval with h | ⟨ib, hib, hval⟩
  · exact .inr (.inr (.inl h))
  rcases hval with h | ⟨xb, hxb, hval⟩
  · exact .inr (.inr (.inr h))
  rcases hval with h | ⟨vtag, _, hval⟩
  · exact .inr (.inl h)
  -- the mask: the hash returns
  rcases hval with h | ⟨mask, hmask, h⟩
  · exact absurd h (hH _)
  -- the xor returns: the mask has exactly as many bytes as the `level ‖ bucket` field
  obtain ⟨r, hr, hrl⟩ := hashH_returns cfg lv hsha (vtag ++ natToBytesMin count)
  rw [hr] at hmask
  cases hmask
  have l1 := (C17.int_roundtrip _ _ _ hib).2
  have l2 := (C17.int_roundtrip _ _ _ hxb).2
  have hlen : mask.length ≤ (ib ++ xb).length := by
    rw [List.length_append, l1, l2, hrl]
    omega
  rw [bytesXor_eq_ok.mpr ⟨hlen, rfl⟩] at h
  cases h

theorem htInsert_ne_indexError {d : Nat} (hsha : ShaLen lv d) {k1 k2 w : Bytes} {count i x : Nat} {c : List Bytes}
    {HT : Table} {e : Err} (h : htInsert cfg lv k1 k2 w count i x c HT = .error e) : e ≠ .indexError := by
  -- the PRF refuses a key or a message of the wrong length with ValueError
  have hprf : ∀ k, cfg.prfF.call lv.hmac k w = .error e → e ≠ .indexError := by
    intro k hp
    unfold HmacPRF.call at hp
    split at hp
    · cases hp
      decide
    · split at hp
      · cases hp
        decide
      · cases hp
  -- the encoding refuses a number too large for its width with OverflowError
  have hint : ∀ y n, intToBytesNat y n = .error e → e ≠ .indexError := by
    intro y n hy
    unfold intToBytesNat at hy
    split at hy
    · cases hy
      decide
    · cases hy
  rcases htInsert_error_inv cfg lv hsha h with h | h | h | h
  · exact hprf _ h
  · exact hprf _ h
  · exact hint _ _ h
  · exact hint _ _ h

theorem permute_onlyMiss {α : Type} (l : List α) (perm : List Nat) : OnlyMiss (permute l perm) := by
  unfold permute
  split
  · intro e h
    cases h
    rfl
  · apply mapM_onlyMiss
    intro i e h
    cases hi : l[i]? with
    | none =>
      rw [hi] at h
      cases h
      rfl
    | some x =>
      rw [hi] at h
      cases h

/-- `hnn` as `setup_onlyMiss` has it; the model, like the code, refuses only levels below -1 -/
theorem initLevels_returns (N : Nat) (levels : List Int) (hnn : ∀ i ∈ levels, 0 ≤ i) (acc : List Level) :
    ∃ ls, initLevels N levels acc = .ok ls := by
  induction levels generalizing acc with
  | nil => exact ⟨acc, rfl⟩
  | cons i rest ih =>
    have hi : 0 ≤ i := hnn i List.mem_cons_self
    have : ¬ i + 1 < 0 := by omega
    simp only [initLevels, if_neg this]
    exact ih (fun j hj => hnn j (List.mem_cons_of_mem _ hj)) _

theorem encBucket_onlyMiss (hH : HmacLen lv) (hu : KeysFit cfg.prfF cfg.rnd cfg.lambda) (k3 : Bytes)
    (h3 : (k3.length : Int) = cfg.lambda) (es : List Entry) (t : Tape) :
    OnlyMiss (encBucket cfg lv k3 es t) := by
  induction es generalizing t with
  | nil => exact OnlyMiss.ok _
  | cons e rest ih =>
    match e with
    | none =>
      unfold encBucket
      apply OnlyMiss.bind (takeBytes_onlyMiss _ t)
      intro ⟨r, t1⟩ _
      apply OnlyMiss.bind (ih t1)
      intro ⟨more, t2⟩ _
      exact OnlyMiss.ok _
    | some (w, id) =>
      unfold encBucket
      obtain ⟨etag, het, hel⟩ := hu.prf_call hH k3 w h3
      apply OnlyMiss.bind_ok het
      have hkey : (etag.length : Int) = cfg.rnd.keyLength := by rw [hel, hu.skeKey]
      apply OnlyMiss.bind (skeEncrypt_onlyMiss cfg.rnd lv hu.plain etag _ t hkey)
      intro ⟨c, t1⟩ _
      apply OnlyMiss.bind (ih t1)
      intro ⟨more, t2⟩ _
      exact OnlyMiss.ok _

theorem finishBuckets_onlyMiss (hH : HmacLen lv) (hu : KeysFit cfg.prfF cfg.rnd cfg.lambda) (k3 : Bytes)
    (h3 : (k3.length : Int) = cfg.lambda) (bks : List (List Entry)) (rems : List Nat) (t : Tape) :
    OnlyMiss (finishBuckets cfg lv k3 bks rems t) := by
  induction bks generalizing rems t with
  | nil => exact OnlyMiss.ok _
  | cons b rest ih =>
    unfold finishBuckets
    apply OnlyMiss.bind (takeNats_onlyMiss t)
    intro ⟨perm, t1⟩ _
    apply OnlyMiss.bind (permute_onlyMiss _ _)
    intro shuffled _
    apply OnlyMiss.bind (encBucket_onlyMiss cfg lv hH hu k3 h3 shuffled t1)
    intro ⟨cs, t2⟩ _
    apply OnlyMiss.bind (ih rems.tail t2)
    intro ⟨bs, arr, t3⟩ _
    exact OnlyMiss.ok _

theorem finishLevels_onlyMiss (hH : HmacLen lv) (hu : KeysFit cfg.prfF cfg.rnd cfg.lambda) (k3 : Bytes)
    (h3 : (k3.length : Int) = cfg.lambda) (lvls : List Int) (ls : List Level) (A : List (Int × List Bytes)) (t : Tape)
    (hhas : ∀ i ∈ lvls, i ∈ ls.map (·.lev)) :
    OnlyMiss (finishLevels cfg lv k3 lvls ls A t) := by
  induction lvls generalizing ls A t with
  | nil => exact OnlyMiss.ok _
  | cons i rest ih =>
    obtain ⟨lvl, hget⟩ := Option.isSome_iff_exists.mp (getLevel_isSome.mpr (hhas i List.mem_cons_self))
    unfold finishLevels
    apply OnlyMiss.bind_ok (getLevelE_eq_ok.mpr hget)
    apply OnlyMiss.bind (finishBuckets_onlyMiss cfg lv hH hu k3 h3 lvl.buckets lvl.remaining t)
    intro ⟨bs, arr, t1⟩ _
    refine ih _ _ _ fun j hj => ?_
    rw [setLevel_levs]
    exact hhas j (List.mem_cons_of_mem _ hj)

theorem htInsert_returns (hH : HmacLen lv) (hu : KeysFit cfg.prfF cfg.rnd cfg.lambda) {d : Nat} (hsha : ShaLen lv d)
    {k1 k2 w : Bytes} (h1 : (k1.length : Int) = cfg.lambda) (h2 : (k2.length : Int) = cfg.lambda)
    {count i x : Nat} {c : List Bytes} {HT : Table} (hi : i < 256 ^ (cfg.dsz / 2)) (hx : x < 256 ^ (cfg.dsz - cfg.dsz / 2)) :
    ∃ HT1, htInsert cfg lv k1 k2 w count i x c HT = .ok HT1 := by
  cases h : htInsert cfg lv k1 k2 w count i x c HT with
  | ok HT1 => exact ⟨HT1, rfl⟩
  | error e =>
    have hint : ∀ y n, y < 256 ^ n → intToBytesNat y n ≠ .error e := fun y n hy he => by
      rw [intToBytesNat_eq_ok.mpr ⟨hy, rfl⟩] at he
      cases he
    rcases htInsert_error_inv cfg lv hsha h with h | h | h | h
    · obtain ⟨_, hok, _⟩ := hu.prf_call hH k1 w h1
      rw [hok] at h; cases h
    · obtain ⟨_, hok, _⟩ := hu.prf_call hH k2 w h2
      rw [hok] at h; cases h
    · exact absurd h (hint _ _ hi)
    · exact absurd h (hint _ _ hx)

theorem setup_onlyMiss (hH : HmacLen lv) (hu : KeysFit cfg.prfF cfg.rnd cfg.lambda) {d : Nat} (hsha : ShaLen lv d)
    (k1 k2 k3 : Bytes) (h1 : (k1.length : Int) = cfg.lambda) (h2 : (k2.length : Int) = cfg.lambda)
    (h3 : (k3.length : Int) = cfg.lambda) (db : DB) (t : Tape) (hN : db.total ≠ 0)
    (hnn : ∀ i ∈ levelsList cfg db.total, 0 ≤ i)
    (hfa : ∀ p ∈ db, ∃ i : Nat, findAdjacent cfg (levelsList cfg db.total) p.2.length = .ok (i : Int))
    (hw : ∀ i : Nat, (i : Int) ∈ levelsList cfg db.total →
      i < 256 ^ (cfg.dsz / 2) ∧ (sizesOf db.total (i : Int)).length ≤ 256 ^ (cfg.dsz - cfg.dsz / 2)) :
    OnlyMiss (setup cfg lv [k1, k2, k3] db t) := by
  unfold setup
  dsimp only
  rw [if_neg hN]
  rw [levelsOf_eq]
  apply OnlyMiss.bind_ok rfl
  obtain ⟨ls0, hinit⟩ := initLevels_returns db.total _ hnn []
  apply OnlyMiss.bind_ok hinit
  have hhas0 : ∀ i ∈ levelsList cfg db.total, i ∈ ls0.map (·.lev) := fun i hi => (initLevels_inv hinit).2 i (.inl hi)
  -- the keyword loop: with room in every level only the hash-table update could raise something else, and it returns
  have henc : OnlyMiss (encDb cfg lv k1 k2 (levelsList cfg db.total) db ls0 [] t) := by
    intro e h
    refine encDb_raises cfg lv (· = .miss) rfl (LInv.initLevels hinit) (by omega) hhas0 hfa ?_ h
    intro w count i x c HT e himem hx he
    have hxw : x < 256 ^ (cfg.dsz - cfg.dsz / 2) := Nat.lt_of_lt_of_le hx (hw i himem).2
    obtain ⟨HT1, hok⟩ := htInsert_returns cfg lv hH hu hsha (w := w) (count := count) (c := c) (HT := HT) h1 h2
      (hw i himem).1 hxw
    rw [hok] at he
    cases he
  apply OnlyMiss.bind henc
  intro ⟨ls1, HT, t1⟩ henc
  apply OnlyMiss.bind (fillHT_eq_fillT .. ▸ SSE1.fillT_onlyMiss _ _ _ _ _)
  intro ⟨HT', t2⟩ _
  have hhas1 : ∀ i ∈ levelsList cfg db.total, i ∈ ls1.map (·.lev) := encDb_levs cfg lv henc ▸ hhas0
  apply OnlyMiss.bind (finishLevels_onlyMiss cfg lv hH hu k3 h3 _ ls1 [] t2 hhas1)
  intro ⟨A, t3⟩ _
  exact OnlyMiss.ok _

end SSEPy.Sch.DP17
