/-
  ANSS16 Scheme 3, the error side: for a non-empty database of non-empty lists (on an empty one Python raises: `log2(0)`),
  under an accepted configuration with param_k = param_k_prime (the one cipher, keyed for `param_k`, also encrypts the list
  lengths under the `param_k_prime`-byte `Ki'`), `EDBSetup` can only fail with `.miss`.  No IndexError (a list of 2^p entries
  has its level: p ≤ t), no OverflowError (every list length is at most 2^t and fits the ⌈(t+1)/8⌉-byte length field;
  /repo commit 7b4d508).
-/
import SSEPyVerif.Proofs.Schemes.ANSS16
namespace SSEPy.Sch

namespace ANSS16
variable (cfg : ANSSCfg) (lv : Leaves)

variable (hl : LeafLaws lv) (hu : Usable cfg) (hkk : cfg.kPrime = cfg.k)
include hl hu hkk

omit hkk in
theorem token_returns (K w : Bytes) :
    ∃ tk, token cfg lv K w = .ok tk ∧ (tk.Ki.length : Int) = cfg.k ∧ (tk.KiP.length : Int) = cfg.kPrime := by
  obtain ⟨x, hcall, hlen⟩ := prf_returns hl.hmac_len hu.prfHash (key := K) (msg := w) (Or.inl hu.prfKey) (Or.inl hu.prfMsg)
  have hk := Int.le_of_lt hu.kpos
  have hk' := Int.le_of_lt hu.kPpos
  have hsum : x.length = [cfg.l.toNat, cfg.k.toNat, cfg.lPrime.toNat, cfg.kPrime.toNat].sum := by
    have hkk' := Int.add_nonneg hk hk'
    have hl0 := Int.le_of_lt hu.lpos
    rw [hlen, hu.prfOut, Int.toNat_add (Int.add_nonneg hkk' hl0) (Int.le_of_lt hu.lPpos), Int.toNat_add hkk' hl0,
      Int.toNat_add hk hk']
    simp only [List.sum_cons, List.sum_nil, Nat.add_zero]
    ac_rfl
  obtain ⟨pieces, hp, hpl⟩ := C17.split_lengths _ _ hsum
  obtain ⟨a, b, c, d, rfl⟩ := exists_of_length_eq_four pieces (by rw [← List.length_map List.length, hpl]; rfl)
  have htk : token cfg lv K w = .ok { li := a, Ki := b, liP := c, KiP := d } := token_eq_ok.mpr ⟨x, hcall, hp⟩
  obtain ⟨_, hKi, _, hKiP⟩ := token_lens htk
  exact ⟨_, htk, by rw [hKi, Int.toNat_of_nonneg hk], by rw [hKiP, Int.toNat_of_nonneg hk']⟩

theorem encDb_onlyMiss (K : Bytes) (niSize : Nat) (db : DB) (Ts : List (List (Bytes × Bytes))) (S : List (Bytes × Bytes))
    (t : Tape) (hlen : ∀ p ∈ db, 1 ≤ p.2.length ∧ p.2.length < 256 ^ niSize ∧ clog2 p.2.length < Ts.length) :
    OnlyMiss (encDb cfg lv K niSize db Ts S t) := by
  induction db generalizing Ts S t with
  | nil => exact OnlyMiss.ok _
  | cons q rest ih =>
    obtain ⟨w, ids⟩ := q
    obtain ⟨⟨h1, h2, h3⟩, hrest⟩ := List.forall_mem_cons.mp hlen
    dsimp only at h1 h2 h3
    unfold encDb
    dsimp only
    rw [if_neg (Nat.ne_of_gt h1)]
    apply OnlyMiss.bind (takeBytesN_onlyMiss _ _ t)
    intro ⟨dummies, t1⟩ _
    obtain ⟨tk, htk, hki, hkip⟩ := token_returns cfg lv hl hu K w
    apply OnlyMiss.bind_ok htk
    apply OnlyMiss.bind (encAll_onlyMiss cfg.ske lv hu.plain tk.Ki _ t1 (by rw [hki, hu.skeKey]))
    intro ⟨cs, t2⟩ _
    apply OnlyMiss.bind_ok (intToBytesNat_eq_ok.mpr ⟨h2, rfl⟩)
    apply OnlyMiss.bind (skeEncrypt_onlyMiss cfg.ske lv hu.plain tk.KiP _ t2 (by rw [hkip, hu.skeKey, hkk]))
    intro ⟨niP, t3⟩ _
    obtain ⟨Ts', hTs', hlen'⟩ := pushAt_returns Ts (tk.li, cs.flatten) h3
    apply OnlyMiss.bind_ok hTs'
    exact ih _ _ _ fun p hp => hlen' ▸ hrest p hp

theorem setupLists_onlyMiss (K : Bytes) (db : DB) (t : Tape) (hne : db ≠ []) (hlists : ∀ p ∈ db, 1 ≤ p.2.length) :
    OnlyMiss (setupLists cfg lv K db t) := by
  unfold setupLists
  dsimp only
  rw [if_neg (DB.total_ne_zero hne hlists)]
  generalize htt : clog2 db.total = tt
  have hcap : db.total ≤ 2 ^ tt := htt ▸ le_two_pow_clog2 _
  apply OnlyMiss.bind (padLoop_onlyMiss _ _ _ db db.total t (Nat.lt_succ_of_le (Nat.sub_le _ _)))
  intro ⟨pdb, t1⟩ hpad
  -- a list of the padded database has at most `2^tt` identifiers: its length fits the length field, and its level exists
  have hfits : ∀ p ∈ pdb, 1 ≤ p.2.length ∧ p.2.length < 256 ^ ceilDiv (tt + 1) 8 ∧
      clog2 p.2.length < (List.replicate (tt + 1) ([] : List (Bytes × Bytes))).length := by
    intro p hp
    obtain ⟨h1, h2⟩ := padLoop_bounds hpad hlists hcap p hp
    have hlt : p.2.length < 2 ^ (tt + 1) := Nat.lt_of_le_of_lt h2 (Nat.pow_lt_pow_right (by decide) (Nat.lt_succ_self tt))
    rw [List.length_replicate]
    exact ⟨h1, lt_256_pow_of_lt_two_pow hlt, Nat.lt_succ_of_le (clog2_le _ _ h2)⟩
  apply OnlyMiss.bind (encDb_onlyMiss cfg lv hl hu hkk K _ pdb _ _ t1 hfits)
  intro ⟨Ts, S, t2⟩ _
  have hk : ((cfg.kPrime.toNat : Nat) : Int) = cfg.ske.keyLength := by
    rw [hu.skeKey, hkk, Int.toNat_of_nonneg (Int.le_of_lt hu.kpos)]
  rw [padLevels_eq]
  apply OnlyMiss.bind (CT14.padLevels_onlyMiss (asCT14 cfg) lv hu.plain hk (tt + 1) 0 Ts t2)
  intro ⟨Ts', t3⟩ _
  apply OnlyMiss.bind (CT14.cipherLen_onlyMiss cfg.ske lv hu.plain _ _ t3 hk)
  intro ⟨nlen, t4⟩ _
  apply OnlyMiss.bind (fillers_onlyMiss _ _ _ t4)
  intro ⟨fs, t5⟩ _
  exact OnlyMiss.ok _

theorem setup_onlyMiss (K : Bytes) (db : DB) (t : Tape) (hne : db ≠ []) (hlists : ∀ p ∈ db, 1 ≤ p.2.length) :
    OnlyMiss (setup cfg lv K db t) := by
  unfold setup
  apply OnlyMiss.bind (setupLists_onlyMiss cfg lv hl hu hkk K db t hne hlists)
  intro ⟨SL, TL, t'⟩ _
  exact OnlyMiss.ok _

end ANSS16
end SSEPy.Sch
