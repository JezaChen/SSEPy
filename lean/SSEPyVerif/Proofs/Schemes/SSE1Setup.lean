/-
  SSE-1 `Setup` read backwards: for each loop of `EDBSetup` the list of what it did — the nodes it made, the cells it stored
  them in, the draws it consumed — put together in `setup_inv` as the record `Built`.  The lemmas about `fillT` take no
  configuration, `fillT_onlyMiss` of the error side among them: DP17's `fillHT` is `fillT`.
-/
import SSEPyVerif.Proofs.Schemes.SSE1Prp
import SSEPyVerif.Proofs.Schemes.Cfg
import SSEPyVerif.Proofs.Schemes.Table
import SSEPyVerif.Proofs.Schemes.Tape
import SSEPyVerif.Proofs.List

namespace SSEPy.Sch

namespace SSE1

structure Parsed (cfg : SSE1Cfg) (raw : RawCfg) : Prop where
  positive : checkParamPositive raw = .ok ()
  exist : checkParamExist ["param_k", "param_l", "param_s", "param_dictionary_size", "param_identifier_size",
    "prp_pi", "prp_psi", "prf_f", "ske1", "ske2"] raw = .ok ()
  getK : getInt raw "param_k" = .ok cfg.k
  getL : getInt raw "param_l" = .ok cfg.l
  getS : getInt raw "param_s" = .ok cfg.s
  getIdSize : getInt raw "param_identifier_size" = .ok cfg.idSize
  getDictSize : getInt raw "param_dictionary_size" = .ok cfg.dictSize
  spos : 0 < cfg.s
  piName : checkBitPrp (getName raw "prp_pi") = .ok ()
  psiName : checkBitPrp (getName raw "prp_psi") = .ok ()
  prfFName : isHmacPrfName (getName raw "prf_f") = true
  ske1Name : isAesCbcName (getName raw "ske1") = true
  ske1 : AESxCBC.new cfg.k = .ok cfg.ske1
  ske2Name : isAesCbcName (getName raw "ske2") = true
  log2s : cfg.log2s = clog2 cfg.s.toNat
  log2sBytes : cfg.log2sBytes = ceilDiv cfg.log2s 8
  prfF : cfg.prfF = HmacPRF.new (cfg.k + cfg.log2sBytes) cfg.k cfg.l 20

theorem cfgBuild_inv (cfg : SSE1Cfg) (raw : RawCfg) (h : SSE1.cfgBuild raw = .ok cfg) : Parsed cfg raw := by
  simp only [SSE1.cfgBuild, ok_inv, Int.not_le, Bool.not_eq_true', Bool.not_eq_false] at h
  obtain ⟨_, hpos, _, hex, k, hk, l, hl, s, hs, ids, hids, ds, hds, hspos, _, hpi, _, hpsi, hf, hn1, ske1, hske, hn2,
    h⟩ := h
  subst h
  exact
    { positive := hpos, exist := hex, getK := hk, getL := hl, getS := hs, getIdSize := hids, getDictSize := hds,
      spos := hspos, piName := hpi, psiName := hpsi, prfFName := hf, ske1Name := hn1, ske1 := hske, ske2Name := hn2,
      log2s := rfl, log2sBytes := rfl, prfF := rfl }

structure Usable (cfg : SSE1Cfg) : Prop where
  plain : PlainSke cfg.ske1
  skeKey : cfg.ske1.keyLength = cfg.k
  kpos : 0 < cfg.k
  lpos : 0 < cfg.l
  idpos : 0 < cfg.idSize
  /-- `param_log2_s_bytes = ceil(log2_s / 8)` (`config.py`), in the form in which `Bitset.toBytes` counts bytes -/
  lb : cfg.log2sBytes = (cfg.log2s + 7) / 8
  fKey : cfg.prfF.keyLength = cfg.k
  fMsg : cfg.prfF.messageLength = cfg.l
  fOut : cfg.prfF.outputLength = cfg.k + cfg.log2sBytes
  fHash : cfg.prfF.hashLen = 20

theorem Usable.keyLen {cfg : SSE1Cfg} (hu : Usable cfg) {x : Bytes} (h : x.length = cfg.k.toNat) : (x.length : Int) = cfg.k :=
  h ▸ Int.toNat_of_nonneg (Int.le_of_lt hu.kpos)

theorem Usable.l8 {cfg : SSE1Cfg} (hu : Usable cfg) : 2 ≤ (cfg.l * 8).toNat := by
  have := hu.lpos
  omega

theorem Usable.fOutNat {cfg : SSE1Cfg} (hu : Usable cfg) : cfg.prfF.outputLength.toNat = cfg.k.toNat + cfg.log2sBytes := by
  rw [hu.fOut, Int.toNat_add (Int.le_of_lt hu.kpos) (Int.natCast_nonneg _), Int.toNat_natCast]

theorem cfgBuild_usable (cfg : SSE1Cfg) (raw : RawCfg) (h : SSE1.cfgBuild raw = .ok cfg) : Usable cfg := by
  have p := cfgBuild_inv cfg raw h
  have pos := fun f z => param_pos _ raw f z p.positive p.exist
  have hk := pos "param_k" cfg.k (by decide +kernel) (by simp) p.getK
  obtain ⟨plain, klen⟩ := new_plain cfg.k cfg.ske1 p.ske1
  have hout : 0 < cfg.k + cfg.log2sBytes := by omega
  have hlb : cfg.log2sBytes = (cfg.log2s + 7) / 8 := by
    rw [p.log2sBytes, ceilDiv]
    rfl
  exact
    { plain := plain, skeKey := klen, kpos := hk,
      lpos := pos "param_l" cfg.l (by decide +kernel) (by simp) p.getL,
      idpos := pos "param_identifier_size" cfg.idSize (by decide +kernel) (by simp) p.getIdSize,
      lb := hlb,
      fKey := congrArg HmacPRF.keyLength p.prfF
      fMsg := congrArg HmacPRF.messageLength p.prfF
      fOut := (congrArg HmacPRF.outputLength p.prfF).trans (HmacPRF.new_out hout)
      fHash := congrArg HmacPRF.hashLen p.prfF }

theorem token_eq_ok {cfg : SSE1Cfg} {lv : Leaves} {K1 K2 K3 K4 w : Bytes} {tk : Bytes × Bytes} :
    token cfg lv [K1, K2, K3, K4] w = .ok tk ↔
      piBytes cfg lv K3 w = .ok tk.1 ∧ cfg.prfF.call lv.hmac K2 (addLeadingZeros w cfg.l) = .ok tk.2 := by
  simp only [token, ok_inv]
  constructor
  · rintro ⟨g, hg, e, he, rfl⟩
    exact ⟨hg, he⟩
  · rintro ⟨hg, he⟩
    exact ⟨_, hg, _, he, rfl⟩

/-- the two widths the token parser cuts at (`SSE1Cfg.wire`) -/
theorem token_lens {cfg : SSE1Cfg} {lv : Leaves} (hl : LeafLaws lv) (hu : Usable cfg) {K1 K2 K3 K4 w gamma eta : Bytes}
    (h : token cfg lv [K1, K2, K3, K4] w = .ok (gamma, eta)) :
    gamma.length = cfg.l.toNat ∧ eta.length = cfg.k.toNat + cfg.log2sBytes := by
  obtain ⟨hg, he⟩ := token_eq_ok.mp h
  exact ⟨(piBytes_inv hl.hmac_len hu.l8 hg).1, (prf_len hl.hmac_len hu.fHash he).trans hu.fOutNat⟩

section
variable (cfg : SSE1Cfg) (lv : Leaves)

/-- a node as `Setup` wrote it: `id ‖ nk ‖ na` encrypted under `key` with the drawn `iv`; the ciphertext `c` went to cell `addr` -/
structure Node where
  (key id nk na iv c : Bytes)
  addr : Bitset

/-- `n` is the non-final node of `id` at counter `ctr`, encrypted under `key`: next key drawn, next address ψ of the next counter -/
structure Link (K1 key id : Bytes) (ctr : Nat) (n : Node) : Prop where
  key_eq : n.key = key
  id_eq : n.id = id
  nk : n.nk.length = cfg.k.toNat
  iv : n.iv.length = 16
  addr : psi cfg lv K1 ctr = .ok n.addr
  next : ∃ nxt, psi cfg lv K1 (ctr + 1) = .ok nxt ∧ nxt.toBytes = .ok n.na
  enc : cfg.ske1.encrypt lv.E key n.iv (id ++ n.nk ++ n.na) = .ok n.c

/-- `innerNodes` as a relation: `ns` are the non-final nodes of `ids` from counter `ctr` on, the first one encrypted under
    `key`; `lastKey` is the key left for the final node -/
inductive Inner (K1 : Bytes) : List Bytes → Bytes → Nat → List Node → Bytes → Prop
  | nil (key ctr) : Inner K1 [] key ctr [] key
  | last (id key ctr) : Inner K1 [id] key ctr [] key
  | cons {id id2 rest key ctr n ns lastKey} (link : Link cfg lv K1 key id ctr n)
      (tail : Inner K1 (id2 :: rest) n.nk (ctr + 1) ns lastKey) : Inner K1 (id :: id2 :: rest) key ctr (n :: ns) lastKey

def store (A : List Bytes) (ns : List Node) : List Bytes := ns.foldl (fun A n => A.set n.addr.value n.c) A

/-- what the non-final nodes `ns` took from the tape: for each its next key, then its IV -/
def draws (ns : List Node) : Tape := ns.flatMap fun n => [.bytes n.nk, .bytes n.iv]

theorem draws_cons (n : Node) (ns : List Node) : draws (n :: ns) = .bytes n.nk :: .bytes n.iv :: draws ns := rfl

theorem mem_draws {ns : List Node} {n : Node} (hn : n ∈ ns) : Draw.bytes n.nk ∈ draws ns ∧ Draw.bytes n.iv ∈ draws ns := by
  rw [draws]
  exact ⟨List.mem_flatMap.mpr ⟨n, hn, List.mem_cons_self⟩,
    List.mem_flatMap.mpr ⟨n, hn, List.mem_cons_of_mem _ List.mem_cons_self⟩⟩

/-- what `encDb` did for one keyword: the list `ids` hangs at counter `ctr` under the drawn key `k0`; its non-final nodes,
    its final node, and the table entry `gamma ↦ theta` -/
structure Kw where
  (w : Bytes) (ids : List Bytes) (ctr : Nat) (k0 : Bytes)
  inner : List Node
  last : Node
  (gamma theta : Bytes)

/-- the nodes of a keyword in the order `encDb` wrote them -/
def Kw.nodes (e : Kw) : List Node := e.inner ++ [e.last]

theorem Kw.mem_nodes {e : Kw} {n : Node} : n ∈ e.nodes ↔ n ∈ e.inner ∨ n = e.last := by
  rw [Kw.nodes, List.mem_append, List.mem_singleton]

/-- what one iteration of `encDb` took from the tape: the first key, the draws of the non-final nodes, the IV of the final one -/
def Kw.draws (e : Kw) : Tape := .bytes e.k0 :: SSE1.draws e.inner ++ [.bytes e.last.iv]

theorem Kw.mem_draws {e : Kw} {n : Node} (hn : n ∈ e.inner) : Draw.bytes n.nk ∈ e.draws ∧ Draw.bytes n.iv ∈ e.draws := by
  have hinner : ∀ d ∈ SSE1.draws e.inner, d ∈ e.draws := fun _ hd => List.mem_cons_of_mem _ (List.mem_append_left _ hd)
  obtain ⟨hnk, hiv⟩ := SSE1.mem_draws hn
  exact ⟨hinner _ hnk, hinner _ hiv⟩

theorem Kw.last_mem_draws (e : Kw) : Draw.bytes e.last.iv ∈ e.draws :=
  List.mem_cons_of_mem _ (List.mem_append_right _ List.mem_cons_self)

structure KwOK (K1 K2 K3 : Bytes) (e : Kw) : Prop where
  k0 : e.k0.length = cfg.k.toNat
  inner : Inner cfg lv K1 e.ids e.k0 e.ctr e.inner e.last.key
  lastId : e.ids.getLast? = some e.last.id
  nk : e.last.nk = zeros cfg.k.toNat
  na : e.last.na = zeros cfg.log2sBytes
  iv : e.last.iv.length = 16
  addr : psi cfg lv K1 (e.ctr + e.inner.length) = .ok e.last.addr
  enc : cfg.ske1.encrypt lv.E e.last.key e.last.iv (e.last.id ++ e.last.nk ++ e.last.na) = .ok e.last.c
  gamma : piBytes cfg lv K3 e.w = .ok e.gamma
  theta : ∃ eta fb, cfg.prfF.call lv.hmac K2 (addLeadingZeros e.w cfg.l) = .ok eta ∧
    ((e.inner.head?.map (·.addr)).getD e.last.addr).toBytes = .ok fb ∧ bytesXor (fb ++ e.k0) eta = .ok e.theta

/-- successive keywords take successive counter segments -/
def Ctrs : Nat → List Kw → Prop
  | _, [] => True
  | c, e :: es => e.ctr = c ∧ Ctrs (c + e.ids.length) es

/-- how a cell `c'` of `fillA`'s result relates to the cell `c` it came from -/
inductive Filled (size : Nat) (t : Tape) (c : Bytes) : Bytes → Prop
  | kept : c ≠ [0] → Filled size t c c
  | drawn {c' : Bytes} : c = [0] → c'.length = size → Draw.bytes c' ∈ t → Filled size t c c'

/-- what `Setup` returned: the keywords `es` it stored, the size `size` of an array filler, the table fillers `kvs`; `t1` is
    the tape after the keywords, `t3` the tape before the table fillers -/
structure Built (K1 K2 K3 : Bytes) (db : DB) (t t' : Tape) (edb : SSE1EDB) (es : List Kw) (size : Nat)
    (kvs : List (Bytes × Bytes)) (t1 t3 : Tape) : Prop where
  db : db = es.map fun e => (e.w, e.ids)
  kw : ∀ e ∈ es, KwOK cfg lv K1 K2 K3 e
  ctrs : Ctrs 1 es
  lt : ∀ n ∈ es.flatMap Kw.nodes, n.addr.value < cfg.s.toNat
  tape : t = es.flatMap Kw.draws ++ t1
  probe : ∃ probe, Enc cfg.ske1 lv t1 (zeros cfg.k.toNat) (zeros (cfg.idSize + cfg.k + cfg.log2sBytes).toNat) probe ∧
    size = probe.length
  A : Forall₂ (Filled size t1) (store (List.replicate cfg.s.toNat [0]) (es.flatMap Kw.nodes)) edb.A
  suffix : Suffix t3 t1
  tape3 : t3 = kvs.flatMap (fun p => [.bytes p.2, .bytes p.1]) ++ t'
  kvsLen : ∀ p ∈ kvs, p.1.length = cfg.l.toNat ∧ p.2.length = cfg.prfF.outputLength.toNat
  kvsCount : kvs.length = cfg.dictSize.toNat - (tableOfList (es.map fun e => (e.gamma, e.theta))).length
  T : edb.T = tableOfList ((es.map fun e => (e.gamma, e.theta)) ++ kvs)

end

variable {cfg : SSE1Cfg} {lv : Leaves} {K1 K2 K3 : Bytes} {ids : List Bytes} {key lastKey : Bytes} {ctr : Nat} {ns : List Node}
  {e : Kw}

theorem setCell_eq_ok {A A' : List Bytes} {i : Nat} {v : Bytes} : setCell A i v = .ok A' ↔ i < A.length ∧ A' = A.set i v := by
  unfold setCell
  split
  · next hlt =>
    rw [Except.ok.injEq]
    exact ⟨fun h => ⟨hlt, h.symm⟩, fun h => h.2.symm⟩
  · next hge =>
    exact ⟨nofun, fun h => absurd h.1 hge⟩

theorem store_cons (A : List Bytes) (n : Node) (ns : List Node) :
    store A (n :: ns) = store (A.set n.addr.value n.c) ns := rfl

theorem store_append (A : List Bytes) (ns ms : List Node) : store A (ns ++ ms) = store (store A ns) ms :=
  List.foldl_append

theorem store_length (A : List Bytes) (ns : List Node) : (store A ns).length = A.length := by
  induction ns generalizing A with
  | nil => rfl
  | cons n ns ih => rw [store_cons, ih, List.length_set]

theorem mem_store {A : List Bytes} {c : Bytes} (h : c ∈ store A ns) : c ∈ A ∨ ∃ n ∈ ns, c = n.c := by
  induction ns generalizing A with
  | nil => exact Or.inl h
  | cons n ns ih =>
    rcases ih (A := A.set n.addr.value n.c) h with h | ⟨m, hm, rfl⟩
    · rcases List.mem_or_eq_of_mem_set h with h | rfl
      · exact Or.inl h
      · exact Or.inr ⟨n, List.mem_cons_self, rfl⟩
    · exact Or.inr ⟨m, List.mem_cons_of_mem _ hm, rfl⟩

theorem store_get_not_mem {A : List Bytes} {i : Nat} (h : i ∉ ns.map (·.addr.value)) : (store A ns)[i]? = A[i]? := by
  induction ns generalizing A with
  | nil => rfl
  | cons n ns ih =>
    simp only [List.map_cons, List.mem_cons, not_or] at h
    rw [store_cons, ih h.2, List.getElem?_set_ne (Ne.symm h.1)]

theorem store_get {A : List Bytes} (hnd : (ns.map (·.addr.value)).Nodup) (hlt : ∀ n ∈ ns, n.addr.value < A.length) :
    ∀ n ∈ ns, (store A ns)[n.addr.value]? = some n.c := by
  induction ns generalizing A with
  | nil => simp
  | cons n ns ih =>
    obtain ⟨hn, hnd⟩ := List.nodup_cons.mp hnd
    intro m hm
    rcases List.mem_cons.mp hm with rfl | hm
    · rw [store_cons, store_get_not_mem hn]
      simp [hlt m List.mem_cons_self]
    · exact ih hnd (fun k hk => by simpa using hlt k (List.mem_cons_of_mem _ hk)) m hm

theorem innerNodes_inv {first : Option Bitset} {A : List Bytes} {t : Tape} {ctr1 : Nat} {first' : Option Bitset} {A1 : List Bytes}
    {t1 : Tape} (h : innerNodes cfg lv K1 ids key ctr first A t = .ok (lastKey, ctr1, first', A1, t1)) :
    ∃ ns, Inner cfg lv K1 ids key ctr ns lastKey ∧ ctr1 = ctr + ns.length ∧ first' = first.or (ns.head?.map (·.addr)) ∧
      (∀ n ∈ ns, n.addr.value < A.length) ∧ A1 = store A ns ∧ t = draws ns ++ t1 := by
  induction ids generalizing key ctr first A t with
  | nil =>
    simp only [innerNodes] at h
    cases h
    exact ⟨[], .nil _ _, rfl, Option.or_none.symm, nofun, rfl, rfl⟩
  | cons id rest ih =>
    cases rest with
    | nil =>
      simp only [innerNodes] at h
      cases h
      exact ⟨[], .last _ _ _, rfl, Option.or_none.symm, nofun, rfl, rfl⟩
    | cons id2 rest2 =>
      simp only [innerNodes, ok_inv] at h
      obtain ⟨⟨kj, ta⟩, hk, nxt, hnxt, nb, hnb, addr, haddr, ⟨c, tb⟩, hske, A', hset, h⟩ := h
      dsimp only at hske hset h
      obtain ⟨iv, hiv, hc⟩ := skeEncrypt_inv hske
      obtain ⟨hlt, rfl⟩ := setCell_eq_ok.mp hset
      obtain ⟨ns, hI, rfl, rfl, hlts, rfl, rfl⟩ := ih h
      rw [List.length_set] at hlts
      let n : Node := { key := key, id := id, nk := kj, na := nb, iv := iv, c := c, addr := addr }
      have link : Link cfg lv K1 key id ctr n :=
        { key_eq := rfl, id_eq := rfl, nk := takeBytes_len hk, iv := takeBytes_len hiv, addr := haddr,
          next := ⟨nxt, hnxt, hnb⟩, enc := hc }
      refine ⟨n :: ns, .cons link hI, ?_, ?_, List.forall_mem_cons.mpr ⟨hlt, hlts⟩, rfl, ?_⟩
      · rw [List.length_cons]
        omega
      · -- `first` is set at most once, by the first node
        cases first <;> rfl
      · rw [takeBytes_tape hk, takeBytes_tape hiv, draws_cons]
        rfl

theorem Inner.length (h : Inner cfg lv K1 ids key ctr ns lastKey) (hne : ids ≠ []) : ns.length + 1 = ids.length := by
  induction h with
  | nil => exact absurd rfl hne
  | last => rfl
  | cons _ _ ih =>
    simp only [List.length_cons] at ih ⊢
    rw [ih (List.cons_ne_nil _ _)]

theorem Inner.lastKey_len (h : Inner cfg lv K1 ids key ctr ns lastKey) (hk : key.length = cfg.k.toNat) :
    lastKey.length = cfg.k.toNat := by
  induction h with
  | nil => exact hk
  | last => exact hk
  | cons link _ ih => exact ih link.nk

/-- the first address of the list is ψ of its first counter, whether it has non-final nodes or not -/
theorem Inner.first (h : Inner cfg lv K1 ids key ctr ns lastKey) {la : Bitset} (hla : psi cfg lv K1 (ctr + ns.length) = .ok la) :
    psi cfg lv K1 ctr = .ok ((ns.head?.map (·.addr)).getD la) := by
  cases h with
  | nil => exact hla
  | last => exact hla
  | cons link _ => exact link.addr

theorem Inner.node (h : Inner cfg lv K1 ids key ctr ns lastKey) : ∀ n ∈ ns, ∃ id ∈ ids, ∃ c, Link cfg lv K1 n.key id c n := by
  induction h with
  | nil => simp
  | last => simp
  | cons link _ ih =>
    intro n hn
    rcases List.mem_cons.mp hn with rfl | hn
    · exact ⟨_, List.mem_cons_self, _, link.key_eq ▸ link⟩
    · obtain ⟨id, hid, c, hlink⟩ := ih n hn
      exact ⟨id, List.mem_cons_of_mem _ hid, c, hlink⟩

theorem encDb_inv {db : DB} {A : List Bytes} {T : Table} {t : Tape} {A' : List Bytes} {T' : Table} {t' : Tape}
    (h : encDb cfg lv K1 K2 K3 db ctr A T t = .ok (A', T', t')) :
    ∃ es : List Kw, db = es.map (fun e => (e.w, e.ids)) ∧ (∀ e ∈ es, KwOK cfg lv K1 K2 K3 e) ∧ Ctrs ctr es ∧
      (∀ n ∈ es.flatMap Kw.nodes, n.addr.value < A.length) ∧ A' = store A (es.flatMap Kw.nodes) ∧
      T' = (es.map fun e => (e.gamma, e.theta)).foldl (fun T p => tinsert T p.1 p.2) T ∧ t = es.flatMap Kw.draws ++ t' := by
  induction db generalizing ctr A T t with
  | nil =>
    simp only [encDb] at h
    cases h
    exact ⟨[], rfl, nofun, trivial, nofun, rfl, rfl, rfl⟩
  | cons p rest ih =>
    obtain ⟨w, ids⟩ := p
    simp only [encDb, ok_inv] at h
    obtain ⟨⟨k0, ta⟩, hk0, ⟨lastKey, ctr1, first, A1, tb⟩, hin, lastId, hlast, lastAddr, hla, ⟨c, tc⟩, hske, A2, hset,
      gamma, hgam, eta, heta, fb, hfb, theta, hth, h⟩ := h
    dsimp only at hin hske hset hfb hth h
    obtain ⟨ns, hI, rfl, rfl, hlts, rfl, rfl⟩ := innerNodes_inv hin
    obtain ⟨iv, hiv, hc⟩ := skeEncrypt_inv hske
    obtain ⟨hlt, rfl⟩ := setCell_eq_ok.mp hset
    have hlast' : ids.getLast? = some lastId := by
      cases hx : ids.getLast? with
      | none => simp [hx] at hlast
      | some x => simpa [hx] using hlast
    obtain ⟨es, rfl, hes, hctr, hlts', rfl, rfl, rfl⟩ := ih h
    have hn : ns.length + 1 = ids.length := hI.length (by intro e; subst e; cases hlast')
    rw [store_length] at hlt
    rw [List.length_set, store_length] at hlts'
    let last : Node :=
      { key := lastKey, id := lastId, nk := zeros cfg.k.toNat, na := zeros cfg.log2sBytes, iv := iv, c := c,
        addr := lastAddr }
    let e : Kw :=
      { w := w, ids := ids, ctr := ctr, k0 := k0, inner := ns, last := last, gamma := gamma, theta := theta }
    have hkw : KwOK cfg lv K1 K2 K3 e :=
      { k0 := takeBytes_len hk0, inner := hI, lastId := hlast', nk := rfl, na := rfl, iv := takeBytes_len hiv,
        addr := hla, enc := hc, gamma := hgam, theta := ⟨eta, fb, heta, hfb, hth⟩ }
    refine ⟨e :: es, rfl, List.forall_mem_cons.mpr ⟨hkw, hes⟩, ⟨rfl, ?_⟩, ?_, ?_, rfl, ?_⟩
    · rw [← hn, ← Nat.add_assoc]
      exact hctr
    · rw [List.flatMap_cons, Kw.nodes]
      exact List.forall_mem_append.mpr ⟨List.forall_mem_append.mpr ⟨hlts, List.forall_mem_singleton.mpr hlt⟩, hlts'⟩
    · rw [List.flatMap_cons, store_append, Kw.nodes, store_append]
      rfl
    · rw [takeBytes_tape hk0, takeBytes_tape hiv, List.flatMap_cons, Kw.draws]
      simp only [List.cons_append, List.append_assoc, List.nil_append]
      rfl

theorem KwOK.nodeEnc (h : KwOK cfg lv K1 K2 K3 e) : ∀ n ∈ e.nodes, Enc cfg.ske1 lv e.draws n.key (n.id ++ n.nk ++ n.na) n.c := by
  intro n hn
  rcases Kw.mem_nodes.mp hn with hn | rfl
  · obtain ⟨id, _, c, link⟩ := h.inner.node n hn
    exact Enc.intro link.iv (Kw.mem_draws hn).2 (link.id_eq ▸ link.enc)
  · exact Enc.intro h.iv e.last_mem_draws h.enc

theorem KwOK.first (h : KwOK cfg lv K1 K2 K3 e) : psi cfg lv K1 e.ctr = .ok ((e.inner.head?.map (·.addr)).getD e.last.addr) :=
  h.inner.first h.addr

theorem KwOK.length (h : KwOK cfg lv K1 K2 K3 e) : e.nodes.length = e.ids.length := by
  rw [Kw.nodes, List.length_append, List.length_singleton]
  exact h.inner.length (by intro e0; have := h.lastId; rw [e0] at this; cases this)

theorem Ctrs.at {c : Nat} {pre post : List Kw} (h : Ctrs c (pre ++ e :: post)) :
    e.ctr = c + DB.total (pre.map fun e => (e.w, e.ids)) := by
  induction pre generalizing c with
  | nil => exact h.1
  | cons p pre ih =>
    rw [List.map_cons, DB.total_cons, ← Nat.add_assoc]
    exact ih h.2

theorem Filled.mono {size : Nat} {t t' : Tape} {c c' : Bytes} (hs : Suffix t' t) (h : Filled size t' c c') :
    Filled size t c c' := by
  cases h with
  | kept hne => exact .kept hne
  | drawn hc hl hd => exact .drawn hc hl (hs.mem hd)

theorem fillA_inv {size : Nat} {A : List Bytes} {t : Tape} {A' : List Bytes} {t' : Tape} (h : fillA size A t = .ok (A', t')) :
    Suffix t' t ∧ Forall₂ (Filled size t) A A' := by
  induction A generalizing t A' with
  | nil =>
    simp only [fillA] at h
    cases h
    exact ⟨.refl _, .nil⟩
  | cons c rest ih =>
    simp only [fillA, ok_inv] at h
    rcases h with ⟨hc, ⟨r, t1⟩, hr, ⟨more, t2⟩, hm, h⟩ | ⟨hc, ⟨more, t2⟩, hm, h⟩
    · cases h
      obtain ⟨hs, hf⟩ := ih hm
      obtain ⟨rfl, hl⟩ := takeBytes_eq_ok.mp hr
      exact ⟨hs.trans (.cons _ _), .cons (.drawn hc hl List.mem_cons_self)
        (hf.imp fun _ _ => Filled.mono (.cons _ _))⟩
    · cases h
      obtain ⟨hs, hf⟩ := ih hm
      exact ⟨hs, .cons (.kept hc) hf⟩

theorem fillT_inv {l out n : Nat} {T : Table} {t : Tape} {T' : Table} {t' : Tape} (h : fillT l out n T t = .ok (T', t')) :
    ∃ kvs : List (Bytes × Bytes), kvs.length = n ∧ (∀ p ∈ kvs, p.1.length = l ∧ p.2.length = out) ∧
      t = kvs.flatMap (fun p => [.bytes p.2, .bytes p.1]) ++ t' ∧ T' = kvs.foldl (fun T p => tinsert T p.1 p.2) T := by
  induction n generalizing T t with
  | zero =>
    simp only [fillT] at h
    cases h
    exact ⟨[], rfl, nofun, rfl, rfl⟩
  | succ m ih =>
    simp only [fillT, ok_inv] at h
    obtain ⟨⟨v, t1⟩, hv, ⟨k, t2⟩, hk, h⟩ := h
    dsimp only at hk h
    obtain ⟨kvs, hlen, hl, rfl, rfl⟩ := ih h
    have htape : t = Draw.bytes v :: Draw.bytes k :: (kvs.flatMap (fun p => [.bytes p.2, .bytes p.1]) ++ t') := by
      rw [takeBytes_tape hv, takeBytes_tape hk]
    refine ⟨(k, v) :: kvs, by rw [List.length_cons, hlen], ?_, htape, rfl⟩
    intro p hp
    rcases List.mem_cons.mp hp with rfl | hp
    · exact ⟨takeBytes_len hk, takeBytes_len hv⟩
    · exact hl p hp

theorem fillT_onlyMiss (l out n : Nat) (T : Table) (t : Tape) : OnlyMiss (fillT l out n T t) := by
  induction n generalizing T t with
  | zero => exact OnlyMiss.ok _
  | succ m ih =>
    unfold fillT
    apply OnlyMiss.bind (takeBytes_onlyMiss out t)
    intro ⟨v, t1⟩ _
    apply OnlyMiss.bind (takeBytes_onlyMiss l t1)
    intro ⟨k, t2⟩ _
    exact ih _ t2

theorem fillT_keys_sublist {l : Nat} (kvs : List (Bytes × Bytes)) (hlab : ∀ p ∈ kvs, p.1.length = l) (t' : Tape) :
    (kvs.map (·.1)).Sublist (drawsLen l (kvs.flatMap (fun p => [.bytes p.2, .bytes p.1]) ++ t')) := by
  induction kvs with
  | nil => exact List.nil_sublist _
  | cons p kvs ih =>
    have ih := ih fun q hq => hlab q (List.mem_cons_of_mem _ hq)
    have hk : drawsLen l (Draw.bytes p.1 :: (kvs.flatMap (fun p => [.bytes p.2, .bytes p.1]) ++ t')) =
        p.1 :: drawsLen l (kvs.flatMap (fun p => [.bytes p.2, .bytes p.1]) ++ t') := by
      simp [drawsLen, hlab p List.mem_cons_self]
    have hv := drawsLen_suffix l (Suffix.cons (Draw.bytes p.2)
      (Draw.bytes p.1 :: (kvs.flatMap (fun p => [.bytes p.2, .bytes p.1]) ++ t')))
    rw [hk] at hv
    exact (List.Sublist.cons_cons p.1 ih).trans hv

theorem fillT_shape (l out n : Nat) (T : Table) (t : Tape) (T' : Table) (t' : Tape) (h : fillT l out n T t = .ok (T', t'))
    (hT : EntLens T l out) :
    EntLens T' l out ∧
    ((drawsLen l t).Nodup → (∀ g ∈ T.map (·.1), g ∉ drawsLen l t) → T'.length = T.length + n) := by
  obtain ⟨kvs, hn, hl, rfl, rfl⟩ := fillT_inv h
  have hsub := fillT_keys_sublist kvs (fun p hp => (hl p hp).1) t'
  refine ⟨fun e he => (mem_foldl_tinsert he).elim (hT e) (hl e), fun hnd hfr => ?_⟩
  rw [foldl_tinsert_length kvs T (hnd.sublist hsub) (fun k hk hkT => hfr k hkT (hsub.subset hk)), hn]

theorem setup_inv {K4 : Bytes} {db : DB} {t t' : Tape} {edb : SSE1EDB}
    (h : setup cfg lv [K1, K2, K3, K4] db t = .ok (edb, t')) :
    ∃ es size kvs t1 t3, Built cfg lv K1 K2 K3 db t t' edb es size kvs t1 t3 := by
  simp only [setup, ok_inv] at h
  obtain ⟨⟨A, T, t1⟩, h1, ⟨probe, t2⟩, h2, ⟨A', t3⟩, h3, ⟨T', t4⟩, h4, h⟩ := h
  cases h
  dsimp only at h2 h3 h4
  obtain ⟨es, hdb, hes, hc, hlt, rfl, rfl, ht⟩ := encDb_inv h1
  obtain ⟨hp, hs2⟩ := skeEncrypt_enc h2
  obtain ⟨hs3, hf⟩ := fillA_inv h3
  obtain ⟨kvs, hn, hl, ht3, rfl⟩ := fillT_inv h4
  rw [List.length_replicate] at hlt
  exact ⟨es, probe.length, kvs, t1, t3,
    { db := hdb, kw := hes, ctrs := hc, lt := hlt, tape := ht, probe := ⟨probe, hp, rfl⟩,
      A := hf.imp fun _ _ => Filled.mono hs2, suffix := hs3.trans hs2, tape3 := ht3, kvsLen := hl, kvsCount := hn,
      T := by
        unfold tableOfList
        exact List.foldl_append.symm }⟩

variable {db : DB} {t t' : Tape} {edb : SSE1EDB} {es : List Kw} {size : Nat} {kvs : List (Bytes × Bytes)} {t1 t3 : Tape}
  (hb : Built cfg lv K1 K2 K3 db t t' edb es size kvs t1 t3)
include hb

theorem Built.suffix1 : Suffix t1 t := ⟨_, hb.tape⟩

theorem Built.mem_db (he : e ∈ es) : (e.w, e.ids) ∈ db :=
  hb.db ▸ List.mem_map.mpr ⟨e, he, rfl⟩

theorem Built.mem_tape (he : e ∈ es) {d : Draw} (hd : d ∈ e.draws) : d ∈ t :=
  hb.tape ▸ List.mem_append_left _ (List.mem_flatMap.mpr ⟨e, he, hd⟩)

theorem Built.A_length : edb.A.length = cfg.s.toNat := by
  rw [hb.A.length_right, store_length, List.length_replicate]

theorem Built.nodeEnc : ∀ e ∈ es, ∀ n ∈ e.nodes, Enc cfg.ske1 lv t n.key (n.id ++ n.nk ++ n.na) n.c := fun e he n hn =>
  ((hb.kw e he).nodeEnc n hn).mono_mem fun _ => hb.mem_tape he

theorem Built.cell_cases {c : Bytes} (h : c ∈ edb.A) :
    (∃ e ∈ es, ∃ n ∈ e.nodes, c = n.c) ∨ (c.length = size ∧ Draw.bytes c ∈ t1) := by
  obtain ⟨c0, hc0, hf⟩ := hb.A.of_mem_right h
  cases hf with
  | kept hne =>
    rcases mem_store hc0 with hr | ⟨n, hn, rfl⟩
    · exact absurd (List.eq_of_mem_replicate hr) hne
    · obtain ⟨e, he, hn⟩ := List.mem_flatMap.mp hn
      exact Or.inl ⟨e, he, n, hn, rfl⟩
  | drawn _ hl hd => exact Or.inr ⟨hl, hd⟩

theorem Built.entry_cases {p : Bytes × Bytes} (h : p ∈ edb.T) : (∃ e ∈ es, p = (e.gamma, e.theta)) ∨ p ∈ kvs := by
  rw [hb.T, tableOfList] at h
  rcases mem_foldl_tinsert h with h | h
  · cases h
  · rcases List.mem_append.mp h with h | h
    · obtain ⟨e, he, rfl⟩ := List.mem_map.mp h
      exact Or.inl ⟨e, he, rfl⟩
    · exact Or.inr h

theorem Built.kvs_mem : ∀ p ∈ kvs, Draw.bytes p.1 ∈ t3 ∧ Draw.bytes p.2 ∈ t3 := by
  intro p hp
  rw [hb.tape3]
  exact ⟨List.mem_append_left _ (List.mem_flatMap.mpr ⟨p, hp, List.mem_cons_of_mem _ List.mem_cons_self⟩),
    List.mem_append_left _ (List.mem_flatMap.mpr ⟨p, hp, List.mem_cons_self⟩)⟩

end SSE1
end SSEPy.Sch
