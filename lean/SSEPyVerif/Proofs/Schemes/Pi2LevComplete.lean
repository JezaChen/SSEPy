/-
  Pi2Lev: `Setup` fails in the model only with `.miss`, for an accepted configuration with a positive pointer width and
  `prf_f_output_length = param_lambda`, a key of `λ` bytes and a recorded `random.sample` of numbers below `|A|`, when every
  list is shorter than B·B'·b' and the array fits the pointer width.  The array has at least as many free slots as blocks
  are stored: identifier blocks and, for large lists, ⌈⌈n/B⌉/B'⌉ = ⌈n/(B·B')⌉ first-level pointer blocks.
-/
import SSEPyVerif.Proofs.Schemes.Pi2Lev
namespace SSEPy.Sch.Pi2Lev

variable (cfg : Pi2LevCfg) (lv : Leaves)

structure Usable : Prop where
  good : GoodCfg cfg
  keys : KeysFit cfg.prfF cfg.ske cfg.lambda

variable {cfg} in
theorem cfgBuild_usable {raw : RawCfg} (h : Pi2Lev.cfgBuild raw = .ok cfg) (hidx : 0 < cfg.idxSize)
    (hout : getInt raw "prf_f_output_length" = getInt raw "param_lambda") : Usable cfg := by
  obtain ⟨hg, _⟩ := cfgBuild_accepted h hidx
  obtain ⟨out, p⟩ := cfgBuild_inv h
  cases p.getLambda.symm.trans (hout.symm.trans p.getOut)
  have hk : KeysFit cfg.prfF cfg.ske cfg.lambda := keysFit_of_new p.ske p.prfF
  exact { good := hg, keys := hk }

theorem placeBlocks_onlyMiss (hu : Usable cfg) (K2 : Bytes) (mark : UInt8) (blocks : List Bytes) (avail : List Nat)
    (A : List (Option Bytes)) (t : Tape) (hk : (K2.length : Int) = cfg.lambda) (hav : blocks.length ≤ avail.length)
    (hp : ∀ p ∈ avail, p < A.length ∧ p < 256 ^ cfg.idxSize.toNat) :
    OnlyMiss (placeBlocks cfg lv K2 mark blocks avail A t) := by
  rw [placeBlocks_eq]
  have hroom : (blocks.map (mark :: ·)).length ≤ avail.length := by rwa [List.length_map]
  refine placeG_onlyMiss hu.keys.plain (hk.trans hu.keys.skeKey.symm) _ avail A t hroom fun p hp' => ?_
  obtain ⟨q1, q2⟩ := hp p hp'
  refine ⟨q1, ?_⟩
  show ∃ ptr, intToBytes (p : Int) cfg.idxSize = .ok ptr
  have hidx := hu.good.idx
  have e : cfg.idxSize = ((cfg.idxSize.toNat : Nat) : Int) := (Int.toNat_of_nonneg (Int.le_of_lt hidx)).symm
  rw [e, intToBytes_natCast]
  exact ⟨_, intToBytesNat_eq_ok.mpr ⟨q2, rfl⟩⟩

theorem dictEntry_onlyMiss (hu : Usable cfg) (K1 K2 : Bytes) (mark : UInt8) (content : Bytes) (t : Tape)
    (h1 : (K1.length : Int) = cfg.lambda) (h2 : (K2.length : Int) = cfg.lambda) :
    OnlyMiss (dictEntry cfg lv K1 K2 mark content t) := by
  obtain ⟨l, hcall⟩ := prf_accepts lv.hmac (msg := [0]) (Or.inr (h1.trans hu.keys.fKey.symm)) (Or.inl hu.keys.fMsg)
  unfold dictEntry
  apply OnlyMiss.bind_ok hcall
  apply OnlyMiss.bind (skeEncrypt_onlyMiss cfg.ske lv hu.keys.plain K2 _ t (h2.trans hu.keys.skeKey.symm))
  intro ⟨d, t1⟩ _
  exact OnlyMiss.ok _

theorem storeKeyword_onlyMiss (hu : Usable cfg) (K1 K2 : Bytes) (ids : List Bytes) (avail : List Nat)
    (A : List (Option Bytes)) (t : Tape)
    (h1 : (K1.length : Int) = cfg.lambda) (h2 : (K2.length : Int) = cfg.lambda)
    (hcap : (ids.length : Int) < (cfg.B * cfg.Bp) * cfg.bp) (hav : needed cfg ids.length ≤ avail.length)
    (hp : ∀ p ∈ avail, p < A.length ∧ p < 256 ^ cfg.idxSize.toNat) :
    OnlyMiss (storeKeyword cfg lv K1 K2 ids avail A t) := by
  have hg := hu.good
  have hbs : 0 ≤ cfg.B * cfg.idSize := Int.le_of_lt hg.block
  have hidx := Int.le_of_lt hg.idx
  unfold storeKeyword
  dsimp only
  by_cases hnb : (ids.length : Int) ≤ cfg.b
  · rw [if_pos hnb]
    apply OnlyMiss.bind (dictEntry_onlyMiss cfg lv hu K1 K2 0 _ t h1 h2)
    intro ⟨e, t1⟩ _
    exact OnlyMiss.ok _
  · rw [if_neg hnb]
    obtain ⟨blocks, hbl⟩ :=
      partitionBlocks_returns ids (sz := cfg.idSize) hg.B (Int.le_of_lt hg.ids) (Or.inr (Int.le_refl _))
    have hbn := (partitionBlocks_inv hbl hg.B (Int.le_of_lt hg.ids) hbs).1
    have hfree : blocks.length ≤ avail.length :=
      Nat.le_trans (Nat.le_of_eq hbn) (Nat.le_trans (le_needed (Int.not_le.mp hnb)) hav)
    by_cases hnm : (ids.length : Int) ≤ cfg.B * cfg.bp
    · rw [if_pos hnm]
      apply OnlyMiss.bind_ok hbl
      apply OnlyMiss.bind (placeBlocks_onlyMiss cfg lv hu K2 0 blocks avail A t h2 hfree hp)
      intro ⟨ptrs, avail1, A1, t1⟩ _
      apply OnlyMiss.bind (dictEntry_onlyMiss cfg lv hu K1 K2 1 _ t1 h1 h2)
      intro ⟨e, t2⟩ _
      exact OnlyMiss.ok _
    · rw [if_neg hnm, if_pos hcap]
      apply OnlyMiss.bind_ok hbl
      have hnd := needed_of_large hg (n := ids.length) (Int.not_le.mp hnb) (Int.not_le.mp hnm)
      apply OnlyMiss.bind (placeBlocks_onlyMiss cfg lv hu K2 0 blocks avail A t h2 hfree hp)
      intro ⟨ptrs, avail1, A1, t1⟩ hpl
      obtain ⟨pds, w, l, _⟩ := placeBlocks_inv cfg lv hpl
      obtain ⟨l1, l2, _⟩ := l.lens hidx
      obtain ⟨pblocks, hpb⟩ :=
        partitionBlocks_returns ptrs (sz := cfg.idxSize) hg.Bp hidx (Or.inr (ptr_block_fits hg))
      have hpn : pblocks.length = ceilDiv (ceilDiv ids.length cfg.B.toNat) cfg.Bp.toNat := by
        rw [(partitionBlocks_inv hpb hg.Bp hidx hbs).1, l2, hbn]
      -- the pointer blocks find the slots that are left: `needed` counts them and the identifier blocks
      have hleft : pblocks.length ≤ avail1.length := w.free_room (by rwa [hnd, ← hpn, ← hbn, ← l1] at hav)
      apply OnlyMiss.bind_ok hpb
      apply OnlyMiss.bind (placeBlocks_onlyMiss cfg lv hu K2 1 pblocks avail1 A1 t1 h2 hleft (w.free_bound hp))
      intro ⟨ptrs2, avail2, A2, t2⟩ _
      apply OnlyMiss.bind (dictEntry_onlyMiss cfg lv hu K1 K2 1 _ t2 h1 h2)
      intro ⟨e, t3⟩ _
      exact OnlyMiss.ok _

theorem encDb_onlyMiss (hH : HmacLen lv) (hu : Usable cfg) (K : Bytes) (hK : (K.length : Int) = cfg.lambda) (db : DB)
    (avail : List Nat) (A : List (Option Bytes)) (t : Tape) (hcap : ∀ p ∈ db, (p.2.length : Int) < (cfg.B * cfg.Bp) * cfg.bp)
    (hav : (db.map fun p => needed cfg p.2.length).sum ≤ avail.length)
    (hp : ∀ p ∈ avail, p < A.length ∧ p < 256 ^ cfg.idxSize.toNat) : OnlyMiss (encDb cfg lv K db avail A t) := by
  induction db generalizing avail A t with
  | nil => exact OnlyMiss.ok _
  | cons q rest ih =>
    obtain ⟨w, ids⟩ := q
    obtain ⟨K1, K2, (htk : token cfg lv K w = .ok (K1, K2)), l1, l2⟩ :=
      hu.keys.token_returns hH K (1 :: w) (2 :: w) hK
    simp only [List.map_cons, List.sum_cons] at hav
    unfold encDb
    apply OnlyMiss.bind_ok htk
    have hthis : needed cfg ids.length ≤ avail.length := Nat.le_trans (Nat.le_add_right _ _) hav
    apply OnlyMiss.bind
      (storeKeyword_onlyMiss cfg lv hu K1 K2 ids avail A t l1 l2 (hcap (w, ids) List.mem_cons_self) hthis hp)
    intro ⟨e, avail1, A1, t1⟩ hst
    obtain ⟨pds, mark, content, wr, _, _, c, _⟩ := storeKeyword_inv cfg lv hst
    -- the keyword took at most the slots reserved for it (`Case.count_le`), so the rest of the database finds its own
    have hrest : (rest.map fun p => needed cfg p.2.length).sum ≤ avail1.length :=
      wr.free_room (Nat.le_trans (Nat.add_le_add_right (c.count_le hu.good) _) hav)
    apply OnlyMiss.bind (ih avail1 A1 t1 (fun p hp' => hcap p (List.mem_cons_of_mem _ hp')) hrest (wr.free_bound hp))
    intro ⟨qs, A2, t2⟩ _
    exact OnlyMiss.ok _

theorem setup_onlyMiss (hH : HmacLen lv) (hu : Usable cfg) (K : Bytes) (hK : (K.length : Int) = cfg.lambda) (db : DB)
    (t : Tape)
    (hcap : ∀ p ∈ db, (p.2.length : Int) < (cfg.B * cfg.Bp) * cfg.bp)
    (hfit : arrayLen cfg db ≤ 2 ^ (cfg.idxSize * 8).toNat)
    (hsample : ∀ sample t0, takeNats t = .ok (sample, t0) → ∀ p ∈ sample, p < arrayLen cfg db) :
    OnlyMiss (setup cfg lv K db t) := by
  have hidx := hu.good.idx
  unfold setup
  dsimp only
  rw [if_neg (Int.not_lt.mpr (Int.le_of_lt hidx)), if_neg (Nat.not_lt.mpr hfit)]
  apply OnlyMiss.bind (takeNats_onlyMiss t)
  intro ⟨sample, t0⟩ hs
  dsimp only
  split
  · exact OnlyMiss.throw_miss
  · rename_i heq
    have hlen : sample.length = arrayLen cfg db - 1 := Decidable.not_not.mp heq
    have hav : (db.map fun p => needed cfg p.2.length).sum ≤ sample.length := by
      rw [hlen, arrayLen_eq, Nat.add_sub_cancel_left]
      exact Nat.le_refl _
    -- `idxSize` bytes are `8 · idxSize` bits
    have hbits : (cfg.idxSize * 8).toNat ≤ 8 * cfg.idxSize.toNat := by
      rw [Int.mul_comm, toNat_mul 8 cfg.idxSize (by decide) hidx]
      exact Nat.le_refl _
    have hwidth : arrayLen cfg db ≤ 256 ^ cfg.idxSize.toNat := Nat.le_trans hfit (two_pow_le_256_pow hbits)
    have hp := sample_fits hwidth (hsample sample t0 hs)
    apply OnlyMiss.bind (encDb_onlyMiss cfg lv hH hu K hK db sample _ t0 hcap hav hp)
    intro ⟨L, A, t1⟩ _
    exact OnlyMiss.ok _

end SSEPy.Sch.Pi2Lev
