/-
  The invariant `J` of the connection manager's transition system (Model/Manager.lean), for the expected program:
  exclusivity and arrival order of the registered connection, consistency of its snapshot with the disk.
-/
import SSEPyVerif.Model.Manager
import SSEPyVerif.Proofs.Server
import SSEPyVerif.Proofs.List
namespace SSEPy.Manager
open SSEPy.ServerIR

def Active (ph : Phase) : Prop := ph = .serving ∨ ph = .finished ∨ ph = .cleaning
def Pending (ph : Phase) : Prop := ph = .queued ∨ ph = .waiting

/-- the invariant of every reachable state (it does not speak of `lockHeld`):
    `shape`: the disk has a shape and the object of every active connection agrees with it;
    `active_reg`, `reg_active`: the active connections are exactly the registered one;
    `queue_iff`: the waiting list holds exactly the pending connections;
    `queue_sorted`, `reg_lt_queue`: in arrival order, all after the registered one -/
structure J (s : MState) : Prop where
  shape : ∃ st cfg edb, Shape s.disk st cfg edb ∧
    ∀ (j : Nat) (c : CRec), s.conns[j]? = some c → Active c.phase → ConnOk st cfg edb c.obj
  active_reg : ∀ (j : Nat) (c : CRec), s.conns[j]? = some c → Active c.phase → s.registry = some j
  reg_active : ∀ (j : Nat), s.registry = some j → ∃ c : CRec, s.conns[j]? = some c ∧ Active c.phase
  queue_iff : ∀ (j : Nat), j ∈ s.queue ↔ ∃ c : CRec, s.conns[j]? = some c ∧ Pending c.phase
  queue_sorted : s.queue.Pairwise (· < ·)
  reg_lt_queue : ∀ r, s.registry = some r → ∀ q ∈ s.queue, r < q

theorem J_init : J {} where
  shape := ⟨0, none, none, .fresh, fun j c h => by simp at h⟩
  active_reg := fun j c h => by simp at h
  reg_active := fun j h => by cases h
  queue_iff := fun j => by simp
  queue_sorted := List.Pairwise.nil
  reg_lt_queue := fun r h => by cases h

theorem conns_idx_lt {s : MState} {j : Nat} {c : CRec} (h : s.conns[j]? = some c) : j < s.conns.length :=
  (List.getElem?_eq_some_iff.mp h).1

theorem getElem?_setConn {s : MState} {j : Nat} {c : CRec} (h : s.conns[j]? = some c) (c' : CRec) (i : Nat) :
    (setConn s j c').conns[i]? = if i = j then some c' else s.conns[i]? := by
  unfold setConn
  simp only [List.getElem?_set]
  by_cases hij : j = i
  · subst hij; simp [conns_idx_lt h]
  · have : ¬ i = j := fun e => hij e.symm
    simp [hij, this]

theorem forall_setConn {s : MState} {j : Nat} {c : CRec} (h : s.conns[j]? = some c) (c' : CRec)
    (Φ : Nat → CRec → Prop) :
    (∀ i ci, (setConn s j c').conns[i]? = some ci → Φ i ci) ↔
      Φ j c' ∧ ∀ i ci, i ≠ j → s.conns[i]? = some ci → Φ i ci := by
  simp only [getElem?_setConn h]
  constructor
  · intro H
    exact ⟨H j c' (by simp), fun i ci hij hi => H i ci (by simp [hij, hi])⟩
  · rintro ⟨H1, H2⟩ i ci hi
    by_cases hij : i = j
    · subst hij; simp at hi; subst hi; exact H1
    · simp [hij] at hi; exact H2 i ci hij hi

theorem exists_setConn {s : MState} {j : Nat} {c : CRec} (h : s.conns[j]? = some c) (c' : CRec) (i : Nat)
    (Ψ : CRec → Prop) :
    (∃ ci, (setConn s j c').conns[i]? = some ci ∧ Ψ ci) ↔
      if i = j then Ψ c' else ∃ ci, s.conns[i]? = some ci ∧ Ψ ci := by
  simp only [getElem?_setConn h]
  by_cases hij : i = j <;> simp [hij]

theorem active_setConn_alone {s : MState} {j : Nat} {c : CRec} (h : s.conns[j]? = some c) (c' : CRec)
    (alone : ∀ i ci, i ≠ j → s.conns[i]? = some ci → ¬ Active ci.phase) {Φ : Nat → CRec → Prop}
    (hj : Active c'.phase → Φ j c') :
    ∀ i ci, (setConn s j c').conns[i]? = some ci → Active ci.phase → Φ i ci := by
  refine (forall_setConn h c' (fun i ci => Active ci.phase → Φ i ci)).mpr ⟨hj, ?_⟩
  intro i ci hij hi ha
  exact absurd ha (alone i ci hij hi)

/-- `step` read backwards, for any program (not an invariant).  What `J` does not need is left out: the guards on `lockHeld`,
    `dead`, `clientOpen` and the inbox (`send`, `deliver`, `clientClose`, `finish`), and why `enter` had to wait.
    In `deliver`, `r` is read as in `handleMsg_refines`. -/
theorem step_inv {p : Program} {s s' : MState} {a : Act} (h : step p s a = some s') :
    match a with
    | .openConn =>
        (∃ o outs, construct p s.disk = some (o, outs) ∧
          s' = { s with conns := s.conns ++ [{ obj := o, outs := outs }], queue := s.queue ++ [s.conns.length] }) ∨
        (construct p s.disk = none ∧
          s' = { s with conns := s.conns ++ [{ obj := {}, phase := .done, clientOpen := false, dead := true,
                                               outs := [.closed] }] })
    | .enter j => ∃ c, s.conns[j]? = some c ∧ c.phase = .queued ∧
        (s' = setConn s j { c with phase := .waiting, outs := if c.clientOpen then .control :: c.outs else c.outs } ∨
         (s.registry = none ∧ s.queue.head? = some j ∧ s' = registerConn p s j c))
    | .wake j => ∃ c, s.conns[j]? = some c ∧ c.phase = .waiting ∧ s.registry = none ∧ s.queue.head? = some j ∧
        s' = registerConn p s j c
    | .send j m => ∃ c, s.conns[j]? = some c ∧ s' = setConn s j { c with inbox := c.inbox ++ [m] }
    | .deliver j => ∃ c m rest, s.conns[j]? = some c ∧ c.phase = .serving ∧ c.inbox = m :: rest ∧
        let r := handleMsg p s.disk c.obj m
        s' = { setConn s j { c with obj := r.2.1, inbox := if r.2.2.1 then rest else [], dead := !r.2.2.1,
                                     outs := if c.clientOpen then r.2.2.2.1.reverse ++ c.outs else c.outs }
               with disk := r.1 }
    | .clientClose j => ∃ c, s.conns[j]? = some c ∧ s' = setConn s j { c with clientOpen := false }
    | .finish j => ∃ c, s.conns[j]? = some c ∧ c.phase = .serving ∧ s' = setConn s j { c with phase := .finished }
    | .cleanupStart j => ∃ c, s.conns[j]? = some c ∧ c.phase = .finished ∧
        s' = { setConn s j { c with phase := .cleaning } with lockHeld := true }
    | .cleanupEnd j => ∃ c, s.conns[j]? = some c ∧ c.phase = .cleaning ∧
        s' = { setConn s j { c with phase := .done } with
               disk := (match s.registry.bind (fun r => s.conns[r]?) with
                 | some rc => closeConn p s.disk rc.obj
                 | none => s.disk),
               registry := none, lockHeld := false } := by
  cases a <;> simp only [step] at h ⊢
  case openConn =>
    split at h <;> cases h
    · rename_i o outs hc
      exact Or.inl ⟨o, outs, hc, rfl⟩
    · rename_i hc
      exact Or.inr ⟨hc, rfl⟩
  case enter j =>
    split at h
    · rename_i c hc
      split at h
      · rename_i hcond
        obtain ⟨hph, -⟩ := hcond
        split at h <;> cases h
        · exact ⟨c, hc, hph, Or.inl rfl⟩
        · rename_i hturn
          have hreg : s.registry = none := by
            cases hr : s.registry with
            | none => rfl
            | some r => exact absurd (Or.inl (by simp [hr])) hturn
          have hhead : s.queue.head? = some j := by
            by_cases hh : s.queue.head? = some j
            · exact hh
            · exact absurd (Or.inr hh) hturn
          exact ⟨c, hc, hph, Or.inr ⟨hreg, hhead, rfl⟩⟩
      · cases h
    · cases h
  case deliver j =>
    split at h
    · rename_i c hc
      split at h
      · rename_i hcond
        obtain ⟨hph, -⟩ := hcond
        split at h
        · cases h
        · rename_i m rest hin
          cases h
          exact ⟨c, m, rest, hc, hph, hin, rfl⟩
      · cases h
    · cases h
  case cleanupEnd j =>
    split at h
    · rename_i c hc
      split at h
      · rename_i hph
        cases h
        exact ⟨c, hc, hph, rfl⟩
      · cases h
    · cases h
  case wake j =>
    split at h
    · rename_i c hc
      split at h
      · rename_i hcond
        obtain ⟨hph, -, hreg, hhead⟩ := hcond
        cases h
        exact ⟨c, hc, hph, hreg, hhead, rfl⟩
      · cases h
    · cases h
  case send j m | clientClose j =>
    split at h
    · rename_i c hc
      split at h
      · cases h
        exact ⟨c, hc, rfl⟩
      · cases h
    · cases h
  case finish j | cleanupStart j =>
    split at h
    · rename_i c hc
      split at h
      · rename_i hcond
        obtain ⟨hph, -⟩ := hcond
        cases h
        exact ⟨c, hc, hph, rfl⟩
      · cases h
    · cases h

theorem Active.of_serving {ph : Phase} (h : ph = .serving) : Active ph := .inl h
theorem Active.of_finished {ph : Phase} (h : ph = .finished) : Active ph := .inr (.inl h)
theorem Active.of_cleaning {ph : Phase} (h : ph = .cleaning) : Active ph := .inr (.inr h)
theorem Pending.of_queued {ph : Phase} (h : ph = .queued) : Pending ph := .inl h
theorem Pending.of_waiting {ph : Phase} (h : ph = .waiting) : Pending ph := .inr h

theorem Phase.active_or_pending_or_done (ph : Phase) : Active ph ∨ Pending ph ∨ ph = .done := by
  cases ph <;> simp [Active, Pending]

theorem not_active_of_pending {ph : Phase} (h : Pending ph) : ¬ Active ph := by
  rcases h with h | h <;> subst h <;> intro ha <;> rcases ha with h | h | h <;> cases h

theorem not_pending_of_active {ph : Phase} (h : Active ph) : ¬ Pending ph := fun hp => not_active_of_pending hp h

theorem Active.alike {p q : Phase} (hp : Active p) (hq : Active q) : (Active p ↔ Active q) ∧ (Pending p ↔ Pending q) :=
  ⟨iff_of_true hp hq, iff_of_false (not_pending_of_active hp) (not_pending_of_active hq)⟩

theorem Pending.alike {p q : Phase} (hp : Pending p) (hq : Pending q) : (Active p ↔ Active q) ∧ (Pending p ↔ Pending q) :=
  ⟨iff_of_false (not_active_of_pending hp) (not_active_of_pending hq), iff_of_true hp hq⟩

theorem active_unique {s : MState} (hJ : J s) {i j : Nat} {ci cj : CRec} (hi : s.conns[i]? = some ci)
    (hj : s.conns[j]? = some cj) (ai : Active ci.phase) (aj : Active cj.phase) : i = j := by
  have h1 := hJ.active_reg i ci hi ai
  have h2 := hJ.active_reg j cj hj aj
  rw [h1] at h2; exact Option.some.inj h2

/-- what every step but `openConn`, registration and the end of a cleanup does: record `j` is replaced by one whose
    phase is of the same kind (`hA`, `hP`: registry and waiting list stay right as they are), the disk by any disk that
    has a shape with which the objects of the active connections agree (`hc'` for `j`, `hothers` for the rest) -/
theorem J_setConn {s : MState} (hJ : J s) {j : Nat} {c c' : CRec} (h : s.conns[j]? = some c)
    (hA : Active c'.phase ↔ Active c.phase) (hP : Pending c'.phase ↔ Pending c.phase)
    {d' : Disk} {st : Nat} {cfg : Option Cfg} {edb : Option Edb} (hs : Shape d' st cfg edb)
    (hc' : Active c'.phase → ConnOk st cfg edb c'.obj)
    (hothers : ∀ i ci, i ≠ j → s.conns[i]? = some ci → Active ci.phase → ConnOk st cfg edb ci.obj) :
    J { setConn s j c' with disk := d' } := by
  refine { shape := ⟨st, cfg, edb, hs, ?shape⟩, active_reg := ?active_reg, reg_active := ?reg_active,
           queue_iff := ?queue_iff, queue_sorted := hJ.queue_sorted, reg_lt_queue := hJ.reg_lt_queue }
  case shape =>
    exact (forall_setConn h c' (fun _ ci => Active ci.phase → ConnOk st cfg edb ci.obj)).mpr ⟨hc', hothers⟩
  case active_reg =>
    have hj : Active c'.phase → s.registry = some j := fun ha => hJ.active_reg j c h (hA.mp ha)
    have hrest : ∀ i ci, i ≠ j → s.conns[i]? = some ci → Active ci.phase → s.registry = some i :=
      fun i ci _ => hJ.active_reg i ci
    exact (forall_setConn h c' (fun i ci => Active ci.phase → s.registry = some i)).mpr ⟨hj, hrest⟩
  case reg_active =>
    intro r hr
    obtain ⟨cr, hcr, har⟩ := hJ.reg_active r hr
    rw [exists_setConn h c' r (fun ci => Active ci.phase)]
    by_cases hrj : r = j
    · subst hrj
      rw [if_pos rfl]
      cases h.symm.trans hcr
      exact hA.mpr har
    · rw [if_neg hrj]
      exact ⟨cr, hcr, har⟩
  case queue_iff =>
    intro i
    show i ∈ s.queue ↔ _
    rw [hJ.queue_iff i, exists_setConn h c' i (fun ci => Pending ci.phase)]
    by_cases hij : i = j
    · subst hij
      rw [if_pos rfl]
      constructor
      · rintro ⟨ci, hi, hp⟩
        cases h.symm.trans hi
        exact hP.mpr hp
      · intro hp
        exact ⟨c, h, hP.mp hp⟩
    · rw [if_neg hij]

theorem J_setConn_same {s : MState} (hJ : J s) {j : Nat} {c c' : CRec} (h : s.conns[j]? = some c)
    (hph : (Active c'.phase ↔ Active c.phase) ∧ (Pending c'.phase ↔ Pending c.phase))
    (hobj : c'.obj = c.obj) : J (setConn s j c') := by
  obtain ⟨st, cfg, edb, hs, hc⟩ := hJ.shape
  refine J_setConn hJ h hph.1 hph.2 hs ?_ (fun i ci _ => hc i ci)
  intro ha
  rw [hobj]
  exact hc j c h (hph.1.mp ha)

theorem J_lockHeld {s : MState} (hJ : J s) (b : Bool) : J { s with lockHeld := b } where
  shape := hJ.shape
  active_reg := hJ.active_reg
  reg_active := hJ.reg_active
  queue_iff := hJ.queue_iff
  queue_sorted := hJ.queue_sorted
  reg_lt_queue := hJ.reg_lt_queue

theorem J_open {s s' : MState} (hJ : J s) (hstep : step P s .openConn = some s') : J s' := by
  obtain ⟨st, cfg, edb, hs, hc⟩ := hJ.shape
  obtain ⟨o, hcons, _⟩ := construct_shape hs
  rcases step_inv hstep with ⟨o', outs, hc', rfl⟩ | ⟨hnone, _⟩
  case inr => rw [hcons] at hnone; cases hnone
  cases hcons.symm.trans hc'
  have old : ∀ {i : Nat} {ci : CRec},
      (s.conns ++ [{ obj := o, outs := [Out.initEcho st] }])[i]? = some ci → Active ci.phase →
        s.conns[i]? = some ci := by
    intro i ci hi ha
    rcases List.getElem?_concat_eq_some.mp hi with hi | ⟨_, rfl⟩
    · exact hi
    · exact absurd ha (not_active_of_pending (.of_queued rfl))
  refine { shape := ⟨st, cfg, edb, hs, fun i ci hi ha => hc i ci (old hi ha) ha⟩,
           active_reg := fun i ci hi ha => hJ.active_reg i ci (old hi ha) ha,
           reg_active := ?reg_active, queue_iff := ?queue_iff, queue_sorted := ?queue_sorted,
           reg_lt_queue := ?reg_lt_queue }
  case reg_active =>
    intro r hr
    obtain ⟨cr, hcr, har⟩ := hJ.reg_active r hr
    exact ⟨cr, List.getElem?_concat_eq_some.mpr (Or.inl hcr), har⟩
  case queue_iff =>
    intro i
    simp only [List.mem_append, List.mem_singleton, List.getElem?_concat_eq_some, hJ.queue_iff i]
    constructor
    · rintro (⟨ci, hi, hp⟩ | rfl)
      · exact ⟨ci, Or.inl hi, hp⟩
      · exact ⟨_, Or.inr ⟨rfl, rfl⟩, Or.inl rfl⟩
    · rintro ⟨ci, hi | ⟨rfl, rfl⟩, hp⟩
      · exact Or.inl ⟨ci, hi, hp⟩
      · exact Or.inr rfl
  case queue_sorted =>
    -- the new index is `s.conns.length`, above every index in use: it goes to the end of the sorted list
    simp only
    rw [List.pairwise_append]
    refine ⟨hJ.queue_sorted, List.pairwise_singleton _ _, ?_⟩
    intro a ha b hb
    simp at hb; subst hb
    obtain ⟨ca, hca, _⟩ := (hJ.queue_iff a).mp ha
    exact conns_idx_lt hca
  case reg_lt_queue =>
    intro r hr q hq
    simp only [List.mem_append, List.mem_singleton] at hq
    rcases hq with hq | rfl
    · exact hJ.reg_lt_queue r hr q hq
    · obtain ⟨cr, hcr, _⟩ := hJ.reg_active r hr
      exact conns_idx_lt hcr

theorem J_register {s : MState} (hJ : J s) {j : Nat} {c : CRec} (h : s.conns[j]? = some c)
    (hreg : s.registry = none) (hhead : s.queue.head? = some j) :
    J (registerConn P s j c) := by
  obtain ⟨st, cfg, edb, hs, hc⟩ := hJ.shape
  obtain ⟨o, hcons, hok⟩ := construct_shape hs
  have hq : s.queue = j :: s.queue.tail := by
    obtain ⟨t, ht⟩ := List.head?_eq_some_iff.mp hhead
    rw [ht, List.tail_cons]
  have noact : ∀ (i : Nat) (ci : CRec), i ≠ j → s.conns[i]? = some ci → ¬ Active ci.phase := by
    intro i ci _ hi ha
    have hregi : s.registry = some i := hJ.active_reg i ci hi ha
    rw [hreg] at hregi
    cases hregi
  -- the head of the sorted waiting list is below all the others, which is `reg_lt_queue` once it is registered
  have hsorted := hJ.queue_sorted
  rw [hq] at hsorted
  have hlt : ∀ q ∈ s.queue.tail, j < q := (List.pairwise_cons.mp hsorted).1
  unfold registerConn
  simp only [hcons]
  refine { shape := ⟨st, cfg, edb, hs, ?shape⟩, active_reg := ?active_reg, reg_active := ?reg_active,
           queue_iff := ?queue_iff, queue_sorted := (List.pairwise_cons.mp hsorted).2, reg_lt_queue := ?reg_lt_queue }
  case shape => exact active_setConn_alone h _ noact fun _ => hok
  case active_reg => exact active_setConn_alone h _ noact fun _ => rfl
  case reg_active =>
    intro r hr
    cases hr
    rw [exists_setConn h _ j (fun ci => Active ci.phase), if_pos rfl]
    exact .of_serving rfl
  case queue_iff =>
    intro i
    refine Iff.trans ?_ (exists_setConn h _ i (fun ci => Pending ci.phase)).symm
    by_cases hij : i = j
    · -- `j`, the head, is below all of the tail, so not in it; and it is serving, not pending
      subst hij
      rw [if_pos rfl]
      exact ⟨fun hi => absurd (hlt i hi) (Nat.lt_irrefl _), nofun⟩
    · rw [if_neg hij, ← hJ.queue_iff i]
      rw [hq, List.tail_cons, List.mem_cons]
      exact ⟨Or.inr, fun hi => hi.resolve_left hij⟩
  case reg_lt_queue =>
    intro r hr q hqm
    cases hr
    exact hlt q hqm

theorem J_deliver {s : MState} (hJ : J s) {j : Nat} {c : CRec} (h : s.conns[j]? = some c)
    (hserv : c.phase = .serving) (m : Msg) {c' : CRec} (hph : c'.phase = c.phase)
    (hobj : c'.obj = (handleMsg P s.disk c.obj m).2.1) :
    J { setConn s j c' with disk := (handleMsg P s.disk c.obj m).1 } := by
  obtain ⟨st, cfg, edb, hs, hc⟩ := hJ.shape
  have hact : Active c.phase := .of_serving hserv
  obtain ⟨st', cfg', edb', hs', hc', _, _⟩ := handleMsg_refines m hs (hc j c h hact)
  refine J_setConn hJ h (by rw [hph]) (by rw [hph]) hs' (fun _ => by rw [hobj]; exact hc') ?_
  intro i ci hij hi ha
  exact absurd (active_unique hJ hi h ha hact) hij

/-- the disk after `cleanupEnd j`: the active connection `j` is the registered one (`active_reg`), so the snapshot
    written back is its own -/
theorem cleanupEnd_disk {p : Program} {s : MState} (hJ : J s) {j : Nat} {c : CRec} (h : s.conns[j]? = some c)
    (ha : Active c.phase) :
    (match s.registry.bind (fun r => s.conns[r]?) with
      | some rc => closeConn p s.disk rc.obj
      | none => s.disk) = closeConn p s.disk c.obj := by
  simp only [hJ.active_reg j c h ha, Option.bind_some, h]

theorem J_cleanupEnd {s : MState} (hJ : J s) {j : Nat} {c : CRec} (h : s.conns[j]? = some c)
    (hcl : c.phase = .cleaning) :
    J { setConn s j { c with phase := .done } with
        disk := (match s.registry.bind (fun r => s.conns[r]?) with
          | some rc => closeConn P s.disk rc.obj
          | none => s.disk),
        registry := none, lockHeld := false } := by
  obtain ⟨st, cfg, edb, hs, hc⟩ := hJ.shape
  have hact : Active c.phase := .of_cleaning hcl
  rw [cleanupEnd_disk hJ h hact]
  have hs' := closeConn_shape hs (hc j c h hact).1
  have ndone : ¬ Active Phase.done := nofun
  have others : ∀ (i : Nat) (ci : CRec), i ≠ j → s.conns[i]? = some ci → ¬ Active ci.phase :=
    fun i ci hij hi ha => hij (active_unique hJ hi h ha hact)
  -- the registry is emptied: `reg_active` and `reg_lt_queue` hold of nothing
  refine { shape := ⟨st, cfg, edb, hs', ?shape⟩, active_reg := ?active_reg, reg_active := nofun,
           queue_iff := ?queue_iff, queue_sorted := hJ.queue_sorted, reg_lt_queue := nofun }
  case shape => exact active_setConn_alone h _ others fun ha => absurd ha ndone
  case active_reg => exact active_setConn_alone h _ others fun ha => absurd ha ndone
  case queue_iff =>
    intro i
    show i ∈ s.queue ↔ _
    rw [hJ.queue_iff i, exists_setConn h _ i (fun ci => Pending ci.phase)]
    by_cases hij : i = j
    · -- `j` goes from cleaning to done: pending neither before nor after
      subst hij
      rw [if_pos rfl]
      constructor
      · rintro ⟨ci, hi, hp⟩
        cases h.symm.trans hi
        exact absurd hact (not_active_of_pending hp)
      · nofun
    · rw [if_neg hij]

theorem J_step {s s' : MState} (hJ : J s) (a : Act) (hstep : step P s a = some s') : J s' := by
  have h := step_inv hstep
  cases a with
  | openConn => exact J_open hJ hstep
  | enter j =>
    obtain ⟨c, hc, hq, rfl | ⟨hreg, hhead, rfl⟩⟩ := h
    · exact J_setConn_same hJ hc (Pending.alike (.of_waiting rfl) (.of_queued hq)) rfl
    · exact J_register hJ hc hreg hhead
  | wake j => obtain ⟨c, hc, _, hreg, hhead, rfl⟩ := h; exact J_register hJ hc hreg hhead
  | send j m => obtain ⟨c, hc, rfl⟩ := h; exact J_setConn_same hJ hc ⟨Iff.rfl, Iff.rfl⟩ rfl
  | deliver j => obtain ⟨c, m, rest, hc, hs, _, rfl⟩ := h; exact J_deliver hJ hc hs m rfl rfl
  | clientClose j => obtain ⟨c, hc, rfl⟩ := h; exact J_setConn_same hJ hc ⟨Iff.rfl, Iff.rfl⟩ rfl
  | finish j =>
    obtain ⟨c, hc, hs, rfl⟩ := h
    exact J_setConn_same hJ hc (Active.alike (.of_finished rfl) (.of_serving hs)) rfl
  | cleanupStart j =>
    obtain ⟨c, hc, hf, rfl⟩ := h
    refine J_lockHeld ?_ true
    exact J_setConn_same hJ hc (Active.alike (.of_cleaning rfl) (.of_finished hf)) rfl
  | cleanupEnd j => obtain ⟨c, hc, hcl, rfl⟩ := h; exact J_cleanupEnd hJ hc hcl

theorem earlier_done {s : MState} (hJ : J s) {j : Nat} {c : CRec} (h : s.conns[j]? = some c)
    (ha : Active c.phase) (i : Nat) (hij : i < j) : ∃ ci : CRec, s.conns[i]? = some ci ∧ ci.phase = .done := by
  have hi : i < s.conns.length := Nat.lt_trans hij (conns_idx_lt h)
  have hget : s.conns[i]? = some s.conns[i] := List.getElem?_eq_getElem hi
  refine ⟨s.conns[i], hget, ?_⟩
  have hreg := hJ.active_reg j c h ha
  rcases Phase.active_or_pending_or_done s.conns[i].phase with hai | hpi | hd
  · exact absurd (active_unique hJ hget h hai ha) (Nat.ne_of_lt hij)
  · have := hJ.reg_lt_queue j hreg i ((hJ.queue_iff i).mpr ⟨_, hget, hpi⟩)
    omega
  · exact hd

end SSEPy.Manager
