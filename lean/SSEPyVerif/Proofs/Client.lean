/-
  The worlds crash-free single-client use can reach are the three-constructor type `AS`; `runCmd_world` evaluates the
  interpreter on the client program (`expectedClient`; `C11.program_is_expected` ties it to what the translator extracted)
  once, into the table `AS.step` of every command on every such world.  Then the composed model of C09 (commands and
  server restarts), and the worlds a crash of the client can leave (C13).
-/
import SSEPyVerif.Model.ClientCrash
import SSEPyVerif.Generated.ClientIR
namespace SSEPy.ClientIR
open SSEPy.ServerIR

def expectedClient : Program := {
  bitMasks := [(.created, 1), (.uploaded, 2), (.key, 4), (.encrypted, 8), (.dbUploaded, 16)],
  ctor := [.ifLocalValid [.readConfig, .readMeta] [.initMeta 0], .ifCreated [.loadModule, .loadConfigObject]],
  createConfig := [.guardBit .created true, .requireValidConfig, .addSalt, .calcSid, .mkdirSid, .writeConfig,
    .setMemConfig, .setBit .created true, .storeMeta, .returnSid],
  createKey := [.guardBit .key true, .guardBit .created false, .loadConfigObject, .loadScheme, .keyGen, .writeKey,
    .setBit .key true, .storeMeta],
  encryptDatabase := [.guardBit .encrypted true, .guardBit .created false, .guardBit .key false, .loadScheme, .loadKey,
    .edbSetup, .writeEdb, .setBit .encrypted true, .storeMeta],
  uploadConfig := [.loadWebsocket, .guardBit .uploaded true, .guardBit .created false, .waitSetup, .sendMsg "config",
    .awaitReply],
  uploadEdb := [.loadWebsocket, .guardBit .dbUploaded true, .guardBit .uploaded false, .guardBit .key false,
    .loadEdbFile, .waitSetup, .sendMsg "upload_edb", .awaitReply],
  keywordSearch := [.loadWebsocket, .guardBit .dbUploaded false, .loadScheme, .loadKey, .waitSetup, .tokenGen,
    .sendMsg "token", .awaitReply],
  uploadConfigEcho := [.returnIfNotOk, .setBit .uploaded true, .storeMeta],
  uploadEdbEcho := [.returnIfNotOk, .setBit .dbUploaded true, .storeMeta, .deleteEdb],
  closeService := [.storeMeta, .closeWebsocket],
  echoDispatch := [("config", "handle_upload_config_echo"), ("upload_edb", "handle_upload_encrypted_database_echo"),
    ("result", "handle_result"), ("control", "handle_control_message")],
  updateTable := [(0, [.setBit .uploaded false, .setBit .dbUploaded false]),
    (1, [.setBit .uploaded true, .setBit .dbUploaded false]), (2, [.setBit .uploaded true, .setBit .dbUploaded true])],
  fmCheckValid := [.retAllExist ["config.json", "service_meta"]],
  fmCreateSidFolder := [.mkdir],
  fmWriteConfig := [.openTmp "config.json", .writeTmp "config.json", .replace "config.json"],
  fmWriteMeta := [.openTmp "service_meta", .writeTmp "service_meta", .replace "service_meta"],
  fmWriteEdb := [.openTmp "edb", .writeTmp "edb", .replace "edb"],
  fmWriteKey := [.openTmp "key", .writeTmp "key", .replace "key"],
  fmDeleteEdb := [.unlink "edb"] }

abbrev CP := expectedClient

inductive KStage where
  | none | key (k : Nat) | enc (k : Nat)
  deriving DecidableEq, Repr

def KStage.hasKey : KStage → Bool | .none => false | _ => true
def KStage.isEnc : KStage → Bool | .enc _ => true | _ => false
def KStage.keyFile : KStage → FileSt Nat | .none => .absent | .key k => .full k | .enc k => .full k
def KStage.edbFile : KStage → FileSt Nat | .enc k => .full k | _ => .absent

/-- the abstract client/server world: before the service is created, during the workflow, after the index is uploaded.
    `ks`: how far key and local index have come; `up`: the configuration is uploaded; `k`: the key id of the uploaded
    index; `n`: the next fresh key id; `alive`: the (volatile) "a connection is open" mark of the reference server, which
    `done` lacks: the upload that gets there and every network command after it close their connection -/
inductive AS where
  | fresh (alive : Bool) (n : Nat)
  | mid (c : Cfg) (ks : KStage) (up alive : Bool) (n : Nat)
  | done (c : Cfg) (k n : Nat)
  deriving DecidableEq, Repr

def AS.world : AS → World
  | .fresh alive n => { cdisk := {}, server := { alive := alive }, nextKey := n }
  | .mid c ks up alive n =>
    { cdisk := { dir := true, config := .full c,
                 metaSt := .full { created := true, uploaded := up, key := ks.hasKey, encrypted := ks.isEnc,
                                   dbUploaded := false },
                 key := ks.keyFile, edb := ks.edbFile },
      server := if up then { st := 1, cfg := some c, edb := none, alive := alive } else { alive := alive },
      nextKey := n }
  | .done c k n =>
    { cdisk := { dir := true, config := .full c,
                 metaSt := .full { created := true, uploaded := true, key := true, encrypted := true, dbUploaded := true },
                 key := .full k, edb := .absent },
      server := { st := 2, cfg := some c, edb := some k, alive := false }, nextKey := n }

def AS.step : AS → Cmd → AS × COut
  | .fresh a n, .create c true => (.mid c .none false a n, .ok)
  | .fresh a n, .create _ false => (.fresh a n, .refused)
  | .fresh a n, .key => (.fresh a n, .refused)
  | .fresh a n, .encrypt => (.fresh a n, .refused)
  -- a network command connects first; with no service folder `close_service` fails before closing the socket
  | .fresh _ n, .uploadConfig => (.fresh true n, .refused)
  | .fresh _ n, .uploadEdb => (.fresh true n, .refused)
  | .fresh _ n, .search => (.fresh true n, .refused)
  | .mid c ks up a n, .create _ _ => (.mid c ks up a n, .refused)
  | .mid c .none up a n, .key => (.mid c (.key n) up a (n + 1), .ok)
  | .mid c (.key k) up a n, .key => (.mid c (.key k) up a n, .refused)
  | .mid c (.enc k) up a n, .key => (.mid c (.enc k) up a n, .refused)
  | .mid c (.key k) up a n, .encrypt => (.mid c (.enc k) up a n, .ok)
  | .mid c .none up a n, .encrypt => (.mid c .none up a n, .refused)
  | .mid c (.enc k) up a n, .encrypt => (.mid c (.enc k) up a n, .refused)
  | .mid c ks false _ n, .uploadConfig => (.mid c ks true false n, .ok)
  | .mid c ks true _ n, .uploadConfig => (.mid c ks true false n, .refused)
  | .mid c (.enc k) true _ n, .uploadEdb => (.done c k n, .ok)
  | .mid c ks up _ n, .uploadEdb => (.mid c ks up false n, .refused)
  | .mid c ks up _ n, .search => (.mid c ks up false n, .refused)
  | .done c k n, .search => (.done c k n, .result k k)
  | .done c k n, _ => (.done c k n, .refused)

def AS.run (a : AS) : List Cmd → AS × List COut
  | [] => (a, [])
  | c :: cs => let q := (a.step c).1.run cs; (q.1, (a.step c).2 :: q.2)

theorem runCmd_world (a : AS) (cmd : Cmd) :
    runCmd CP a.world cmd = ((a.step cmd).1.world, (a.step cmd).2) := by
  cases a with
  | fresh alive n => cases cmd with
    | create c v => cases v <;> rfl
    | _ => rfl
  | mid c ks up alive n =>
    cases cmd with
    | create c' v => cases v <;> rfl
    | key | encrypt => cases ks <;> rfl
    | uploadConfig | search => cases up <;> rfl
    | uploadEdb => cases ks <;> cases up <;> rfl
  | done c k n => cases cmd with
    | create c' v => cases v <;> rfl
    | _ => rfl

theorem runCmds_world (a : AS) (cmds : List Cmd) :
    runCmds CP a.world cmds = ((a.run cmds).1.world, (a.run cmds).2) := by
  induction cmds generalizing a with
  | nil => rfl
  | cons c cs ih =>
    simp only [runCmds, AS.run, runCmd_world, ih]

theorem world_init : ({} : World) = (AS.fresh false 1).world := rfl

theorem runCmds_append (p : Program) (w : World) (cs ds : List Cmd) :
    runCmds p w (cs ++ ds) =
      ((runCmds p (runCmds p w cs).1 ds).1, (runCmds p w cs).2 ++ (runCmds p (runCmds p w cs).1 ds).2) := by
  induction cs generalizing w with
  | nil => rfl
  | cons c cs ih => simp only [List.cons_append, runCmds, ih]

theorem AS.step_result {a : AS} {c : Cmd} {e k : Nat} (h : (a.step c).2 = .result e k) : e = k := by
  cases a with
  | fresh alive n => cases c with
    | create c v => cases v <;> cases h
    | _ => cases h
  | mid c' ks up alive n =>
    cases c with
    | create c'' v | search => cases h
    | key | encrypt => cases ks <;> cases h
    | uploadConfig => cases up <;> cases h
    | uploadEdb => cases ks <;> cases up <;> cases h
  | done c' k' n => cases c with
    | search => cases h; rfl
    | _ => cases h

theorem AS.run_result (a : AS) (cmds : List Cmd) (e k : Nat) (h : COut.result e k ∈ (a.run cmds).2) : e = k := by
  induction cmds generalizing a with
  | nil => cases h
  | cons c cs ih =>
    simp only [AS.run, List.mem_cons] at h
    rcases h with h | h
    · exact AS.step_result h.symm
    · exact ih _ h

theorem AS.run_snoc (a : AS) (cs : List Cmd) (c : Cmd) :
    (a.run (cs ++ [c])).2 = (a.run cs).2 ++ [((a.run cs).1.step c).2] := by
  induction cs generalizing a with
  | nil => rfl
  | cons d ds ih => simp only [AS.run, List.cons_append, ih]

theorem AS.run_done (c : Cfg) (k n : Nat) (cs : List Cmd) : ((AS.done c k n).run cs).1 = .done c k n := by
  induction cs with
  | nil => rfl
  | cons d ds ih =>
    have stays : ((AS.done c k n).step d).1 = .done c k n := by cases d <;> rfl
    show (((AS.done c k n).step d).1.run ds).1 = _
    rw [stays]
    exact ih

end SSEPy.ClientIR

namespace SSEPy.C09
open SSEPy.ClientIR SSEPy.ServerIR

def restartW (w : World) : World := { w with server := { w.server with alive := false } }

inductive Step where
  | cmd (c : Cmd)
  | restart
  deriving DecidableEq, Repr

def runSteps (p : ClientIR.Program) : World → List Step → World × List COut
  | w, [] => (w, [])
  | w, .cmd c :: rest => let r := runCmd p w c; let q := runSteps p r.1 rest; (q.1, r.2 :: q.2)
  | w, .restart :: rest => runSteps p (restartW w) rest

def Step.cmd? : Step → Option Cmd
  | .cmd c => some c
  | .restart => none

end SSEPy.C09

namespace SSEPy.ClientIR
open SSEPy.ServerIR SSEPy.C09

def AS.restart : AS → AS
  | .fresh _ n => .fresh false n
  | .mid c ks up _ n => .mid c ks up false n
  | .done c k n => .done c k n

theorem AS.restart_restart (a : AS) : a.restart.restart = a.restart := by
  cases a <;> rfl

theorem AS.step_restart (a : AS) (c : Cmd) :
    (a.restart.step c).2 = (a.step c).2 ∧ (a.restart.step c).1.restart = (a.step c).1.restart := by
  cases a with
  | fresh alive n => cases c with
    | create c v => cases v <;> exact ⟨rfl, rfl⟩
    | _ => exact ⟨rfl, rfl⟩
  | mid c' ks up alive n =>
    cases c with
    | create c'' v | search => exact ⟨rfl, rfl⟩
    | key | encrypt => cases ks <;> exact ⟨rfl, rfl⟩
    | uploadConfig => cases up <;> exact ⟨rfl, rfl⟩
    | uploadEdb => cases ks <;> cases up <;> exact ⟨rfl, rfl⟩
  | done c' k n => exact ⟨rfl, rfl⟩

theorem restartW_world (a : AS) : restartW a.world = a.restart.world := by
  cases a with
  | fresh alive n => rfl
  | mid c ks up alive n => cases up <;> rfl
  | done c k n => rfl

def AS.runSteps : AS → List Step → AS × List COut
  | a, [] => (a, [])
  | a, .cmd c :: rest => let q := (a.step c).1.runSteps rest; (q.1, (a.step c).2 :: q.2)
  | a, .restart :: rest => a.restart.runSteps rest

theorem runSteps_world (a : AS) (steps : List Step) :
    runSteps CP a.world steps = ((a.runSteps steps).1.world, (a.runSteps steps).2) := by
  induction steps generalizing a with
  | nil => rfl
  | cons s rest ih =>
    cases s with
    | cmd c => simp only [runSteps, AS.runSteps, runCmd_world, ih]
    | restart => simp only [runSteps, AS.runSteps, restartW_world, ih]

theorem runSteps_restartFree (a : AS) (steps : List Step) :
    (runSteps CP a.world steps).2 = (a.run (steps.filterMap Step.cmd?)).2 := by
  rw [runSteps_world]
  -- on the table the two runs drift apart in the open-connection mark, so the induction is over pairs that agree up to it
  suffices h : ∀ a b : AS, a.restart = b.restart →
      (a.runSteps steps).2 = (b.run (steps.filterMap Step.cmd?)).2 from h a a rfl
  induction steps with
  | nil => intro a b _; rfl
  | cons s rest ih =>
    intro a b hab
    cases s with
    | restart => exact ih _ _ (by rw [AS.restart_restart, hab])
    | cmd c =>
      have ha := a.step_restart c
      have hb := b.step_restart c
      rw [hab] at ha
      simp only [AS.runSteps, List.filterMap_cons, Step.cmd?, AS.run]
      rw [ih _ _ (ha.2.symm.trans hb.2), ← ha.1, hb.1]

/-! The worlds a crash leaves (C13).  `C13.client_double_crash_recovers` ranges over 15 × 15 pairs of a step and a budget,
  too many runs to evaluate as it stands.  It is proved in three stages with two lists of worlds between them: a first crash
  leaves a world of `crashWorlds`, a crash while recovering from one of those a world of `crashWorlds₂`, and recovery
  succeeds from every world of `crashWorlds₂`.  The evaluations run the extracted program itself with the configuration
  id 7, as the C13 statements do. -/

/-- the model's `crashThenRecover` and `crashTwiceThenRecover` up to the first crash: the world it leaves -/
def firstCrash? (p : Program) (cfg : Cfg) (i k : Nat) : Option World :=
  ((workflow cfg)[i]?).map fun cmd => (runCmdB p (runCmds p {} ((workflow cfg).take i)).1 cmd k).1

/-- `recoverTwice` up to its crash, in step `i2` of the workflow re-issued from `w`: the world it leaves -/
def secondCrash? (p : Program) (cfg : Cfg) (w : World) (i2 k2 : Nat) : Option World :=
  let created := match loadObj p w.cdisk with | some o => o.bits.created | none => false
  let w0 : World := if created then w else { w with cdisk := {} }
  ((workflow cfg)[i2]?).map fun cmd => (runCmdB p (runCmds p w0 ((workflow cfg).take i2)).1 cmd k2).1

def COut.good (o : COut) : Bool := match o with | .result e t => e == t | _ => false

theorem COut.good_iff {o : COut} : o.good = true ↔ ∃ k, o = .result k k := by
  cases o with
  | result e t =>
    simp only [COut.good, beq_iff_eq]
    exact ⟨fun h => ⟨e, by rw [h]⟩, fun ⟨k, h⟩ => by cases h; rfl⟩
  | ok | refused => exact ⟨nofun, nofun⟩

theorem crashThenRecover_of_firstCrash {p : Program} {cfg : Cfg} {i k : Nat} {w : World}
    (h : firstCrash? p cfg i k = some w) : ∃ died, crashThenRecover p cfg i k = some (died, (recover p cfg w).2) := by
  obtain ⟨cmd, hcmd, rfl⟩ := Option.map_eq_some_iff.mp h
  unfold crashThenRecover
  rw [hcmd]
  exact ⟨_, rfl⟩

theorem crashTwiceThenRecover_of_firstCrash {p : Program} {cfg : Cfg} {i k : Nat} {w : World}
    (h : firstCrash? p cfg i k = some w) (i2 k2 : Nat) :
    crashTwiceThenRecover p cfg i k i2 k2 = recoverTwice p cfg w i2 k2 := by
  obtain ⟨cmd, hcmd, rfl⟩ := Option.map_eq_some_iff.mp h
  unfold crashTwiceThenRecover
  rw [hcmd]

theorem recoverTwice_of_secondCrash {p : Program} {cfg : Cfg} {w w' : World} {i2 k2 : Nat}
    (h : secondCrash? p cfg w i2 k2 = some w') : recoverTwice p cfg w i2 k2 = (recover p cfg w').2 := by
  obtain ⟨cmd, hcmd, rfl⟩ := Option.map_eq_some_iff.mp h
  unfold recoverTwice
  rw [hcmd]
  rfl

/-! What is proved of the lists is membership: they hold at least the worlds that occur over the 5 steps × budgets 0–2.
    Budgets stop at 2 because with budget 3 no step dies (`C13.crash_points_are_covered`). -/

/-- the worlds the documented workflow (configuration id 7) passes through from the key step on, one effect at a time, when
    that step draws the id `k` and leaves the counter at `n` (it draws before it writes: the first world has no key file
    yet).  A step puts its file in place and then stores its flag; an upload is accepted by the server (no connection stays
    open) before the client stores its flag; the local index is removed last -/
def stages (k n : Nat) : List World :=
  let afterCreate : Bits := { created := true }
  let afterKey : Bits := { afterCreate with key := true }
  let afterEncrypt : Bits := { afterKey with encrypted := true }
  let afterUpload : Bits := { afterEncrypt with uploaded := true }
  let afterEdbUpload : Bits := { afterUpload with dbUploaded := true }
  let w0 : World := { cdisk := { dir := true, config := .full 7, metaSt := .full afterCreate }, nextKey := n }
  let w1 : World := { w0 with cdisk.key := .full k }
  let w2 : World := { w1 with cdisk.metaSt := .full afterKey }
  let w3 : World := { w2 with cdisk.edb := .full k }
  let w4 : World := { w3 with cdisk.metaSt := .full afterEncrypt }
  let w5 : World := { w4 with server := { st := 1, cfg := some 7 } }
  let w6 : World := { w5 with cdisk.metaSt := .full afterUpload }
  let w7 : World := { w6 with server := { st := 2, cfg := some 7, edb := some k } }
  let w8 : World := { w7 with cdisk.metaSt := .full afterEdbUpload }
  let w9 : World := { w8 with cdisk.edb := .absent }
  [w0, w1, w2, w3, w4, w5, w6, w7, w8, w9]

/-- after a first crash: the three worlds inside `create-service` (nothing, the folder, the configuration in it), then
    the stages with the first key -/
def crashWorlds : List World :=
  [({} : World), { cdisk := { dir := true } }, { cdisk := { dir := true, config := .full 7 } }] ++ stages 1 2

/-- after a second crash, in addition: the same stages one key generation later (a re-issued key step drew id 2), and
    the world where that key step drew id 2 and died before `writeKey`, so that the first key file is still there -/
def crashWorlds₂ : List World :=
  crashWorlds ++ (stages 2 3 ++
    [{ cdisk := { dir := true, config := .full 7, metaSt := .full { created := true }, key := .full 1 },
       nextKey := 3 }])

theorem firstCrash_mem {i k : Nat} (hi : i < 5) (hk : k < 3) :
    ∃ w, firstCrash? Generated.clientProgram 7 i k = some w ∧ w ∈ crashWorlds := by
  have h : ((List.range 5).all fun i => (List.range 3).all fun k =>
      (firstCrash? Generated.clientProgram 7 i k).any crashWorlds.contains) = true := by decide +kernel
  simp only [List.all_eq_true, List.mem_range, Option.any_eq_true, List.contains_iff_mem] at h
  exact h i hi k hk

theorem secondCrash_mem {w : World} (hw : w ∈ crashWorlds) {i2 k2 : Nat} (hi2 : i2 < 5) (hk2 : k2 < 3) :
    ∃ w', secondCrash? Generated.clientProgram 7 w i2 k2 = some w' ∧ w' ∈ crashWorlds₂ := by
  have h : (crashWorlds.all fun w => (List.range 5).all fun i2 => (List.range 3).all fun k2 =>
      (secondCrash? Generated.clientProgram 7 w i2 k2).any crashWorlds₂.contains) = true := by decide +kernel
  simp only [List.all_eq_true, List.mem_range, Option.any_eq_true, List.contains_iff_mem] at h
  exact h w hw i2 hi2 k2 hk2

theorem recover_good {w : World} (hw : w ∈ crashWorlds₂) :
    ∃ k, (recover Generated.clientProgram 7 w).2 = .result k k := by
  have h : (crashWorlds₂.all fun w => (recover Generated.clientProgram 7 w).2.good) = true := by decide +kernel
  exact COut.good_iff.mp (List.all_eq_true.mp h w hw)

end SSEPy.ClientIR
