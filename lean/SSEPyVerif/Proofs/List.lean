/-
  List facts that are not about the model: `Forall₂`, positions and prefixes, blocks of equal length,
  `lookup` under distinct keys, sums.
-/
namespace SSEPy

/-- core Lean has no `List.Forall₂` -/
inductive Forall₂ {α β : Type} (R : α → β → Prop) : List α → List β → Prop
  | nil : Forall₂ R [] []
  | cons {a b as bs} : R a b → Forall₂ R as bs → Forall₂ R (a :: as) (b :: bs)

namespace Forall₂
variable {α β γ : Type} {R S : α → β → Prop} {as : List α} {bs : List β}

theorem imp (h : Forall₂ R as bs) (hi : ∀ a b, R a b → S a b) : Forall₂ S as bs := by
  induction h with
  | nil => exact .nil
  | cons h _ ih => exact .cons (hi _ _ h) ih

theorem length_right (h : Forall₂ R as bs) : bs.length = as.length := by
  induction h with
  | nil => rfl
  | cons _ _ ih => simp [ih]

theorem of_mem_right (h : Forall₂ R as bs) {b : β} (hb : b ∈ bs) : ∃ a ∈ as, R a b := by
  induction h with
  | nil => cases hb
  | cons h _ ih =>
    rcases List.mem_cons.mp hb with rfl | hb
    · exact ⟨_, List.mem_cons_self, h⟩
    · obtain ⟨a, ha, hr⟩ := ih hb
      exact ⟨a, List.mem_cons_of_mem _ ha, hr⟩

theorem of_mem_left (h : Forall₂ R as bs) {a : α} (ha : a ∈ as) : ∃ b ∈ bs, R a b := by
  induction h with
  | nil => cases ha
  | cons h _ ih =>
    rcases List.mem_cons.mp ha with rfl | ha
    · exact ⟨_, List.mem_cons_self, h⟩
    · obtain ⟨b, hb, hr⟩ := ih ha
      exact ⟨b, List.mem_cons_of_mem _ hb, hr⟩

theorem getElem? (h : Forall₂ R as bs) {i : Nat} {a : α} (ha : as[i]? = some a) : ∃ b, bs[i]? = some b ∧ R a b := by
  induction h generalizing i with
  | nil => cases ha
  | cons hab _ ih =>
    cases i with
    | zero => cases ha; exact ⟨_, rfl, hab⟩
    | succ j => exact ih ha

theorem of_map_left {f : γ → α} {cs : List γ} (h : Forall₂ R (cs.map f) bs) : Forall₂ (fun c b => R (f c) b) cs bs := by
  induction cs generalizing bs with
  | nil => cases h; exact .nil
  | cons c cs ih => cases h with | cons h1 h2 => exact .cons h1 (ih h2)

theorem map_eq {f : α → γ} {g : β → γ} (h : Forall₂ R as bs) (hfg : ∀ a b, R a b → f a = g b) : as.map f = bs.map g := by
  induction h with
  | nil => rfl
  | cons h _ ih => rw [List.map_cons, List.map_cons, hfg _ _ h, ih]

theorem append_left_inv {as₁ as₂ : List α} (h : Forall₂ R (as₁ ++ as₂) bs) :
    ∃ bs₁ bs₂, bs = bs₁ ++ bs₂ ∧ Forall₂ R as₁ bs₁ ∧ Forall₂ R as₂ bs₂ := by
  induction as₁ generalizing bs with
  | nil => exact ⟨[], bs, rfl, .nil, h⟩
  | cons a as ih =>
    cases h with
    | cons h1 h2 =>
      obtain ⟨bs₁, bs₂, rfl, f1, f2⟩ := ih h2
      exact ⟨_ :: bs₁, bs₂, rfl, .cons h1 f1, f2⟩

end Forall₂

theorem _root_.List.getElem?_concat_eq_some {α : Type} {xs : List α} {a b : α} {i : Nat} :
    (xs ++ [a])[i]? = some b ↔ xs[i]? = some b ∨ (i = xs.length ∧ a = b) := by
  rw [List.getElem?_append]
  split
  · rename_i h
    constructor
    · exact Or.inl
    · rintro (h' | ⟨e, _⟩)
      · exact h'
      · exact absurd e (Nat.ne_of_lt h)
  · -- `i` is past `xs`, and `[a]` has the one position 0
    rename_i h
    rw [List.getElem?_eq_none (Nat.le_of_not_lt h)]
    constructor
    · intro h'
      cases hk : i - xs.length with
      | zero =>
        rw [hk] at h'
        have hi : i = xs.length := by omega
        have hab : a = b := by simpa using h'
        exact Or.inr ⟨hi, hab⟩
      | succ k =>
        rw [hk] at h'
        simp at h'
    · rintro (h' | ⟨rfl, rfl⟩)
      · cases h'
      · simp

theorem take_append_replicate {α} (d : α) : ∀ (n : Nat) (l : List α),
    l.take n ++ List.replicate (n - (l.take n).length) d = (List.range n).map (fun k => l.getD k d)
  | 0, l => by simp
  | n + 1, [] => by simp [List.map_const']
  | n + 1, x :: xs => by
    rw [List.take_succ_cons, List.length_cons, Nat.succ_sub_succ, List.cons_append, take_append_replicate d n xs,
      List.range_succ_eq_map, List.map_cons, List.map_map]
    rfl

theorem flatten_length_of_all {α : Type} (n : Nat) (ls : List (List α)) (h : ∀ l ∈ ls, l.length = n) :
    ls.flatten.length = ls.length * n := by
  induction ls with
  | nil => simp
  | cons x xs ih =>
    simp only [List.flatten_cons, List.length_append, List.length_cons]
    rw [ih (fun l hl => h l (List.mem_cons_of_mem _ hl)), h x List.mem_cons_self, Nat.add_mul]
    omega

theorem foldl_set_prefix {α : Type} (z : α) (l : List α) : ∀ n, n ≤ l.length →
    (List.range n).foldl (fun l k => l.set k z) l = List.replicate n z ++ l.drop n := by
  intro n
  induction n with
  | zero => intro _; rfl
  | succ n ih =>
    intro h
    have hpast : (List.replicate n z).length ≤ n := Nat.le_of_eq List.length_replicate
    rw [List.range_succ, List.foldl_append, ih (Nat.le_of_succ_le h), List.foldl_cons, List.foldl_nil,
      List.set_append_right _ _ hpast, List.length_replicate, Nat.sub_self, List.replicate_succ', List.append_assoc]
    congr 1
    rw [List.drop_eq_getElem_cons h]; rfl

theorem foldl_set_all {α : Type} (z : α) (l : List α) :
    (List.range l.length).foldl (fun l k => l.set k z) l = l.map fun _ => z := by
  rw [foldl_set_prefix z l _ (Nat.le_refl _), List.drop_length, List.append_nil, List.map_const']

theorem length_flatten_range_map {α : Type} (f : Nat → List α) (d : Nat) (hf : ∀ i, (f i).length = d) (n : Nat) :
    ((List.range n).map f).flatten.length = n * d := by
  rw [flatten_length_of_all d _ (List.forall_mem_map.mpr fun i _ => hf i), List.length_map, List.length_range]

theorem take_flatten_range_map {α : Type} (f : Nat → List α) (d : Nat) (hf : ∀ i, (f i).length = d) (x n m : Nat)
    (hn : x ≤ n * d) (hm : x ≤ m * d) :
    (((List.range n).map f).flatten).take x = (((List.range m).map f).flatten).take x := by
  have key : ∀ {a b : Nat}, a ≤ b → x ≤ a * d →
      (((List.range a).map f).flatten).take x = (((List.range b).map f).flatten).take x := by
    intro a b hab ha
    obtain ⟨k, rfl⟩ := Nat.exists_eq_add_of_le hab
    have hfit : x ≤ ((List.range a).map f).flatten.length := by
      rw [length_flatten_range_map f d hf]
      exact ha
    rw [List.range_add, List.map_append, List.flatten_append, List.take_append_of_le_length hfit]
  rcases Nat.le_total n m with h | h
  · exact key h hn
  · exact (key h hm).symm

theorem lookup_eq_some_of_mem {α β : Type} [BEq α] [LawfulBEq α] {l : List (α × β)} {k : α} {v : β}
    (hn : (l.map (·.1)).Nodup) (hm : (k, v) ∈ l) : l.lookup k = some v := by
  obtain ⟨s, t, rfl⟩ := List.append_of_mem hm
  rw [List.map_append, List.map_cons, List.nodup_append] at hn
  obtain ⟨_, _, hdisj⟩ := hn
  have hbefore : ∀ p ∈ s, p.1 ≠ k := fun p hp => hdisj p.1 (List.mem_map_of_mem hp) k List.mem_cons_self
  exact List.lookup_eq_some_iff.mpr ⟨s, t, rfl, fun p hp => bne_iff_ne.mpr (hbefore p hp).symm⟩

theorem mem_of_lookup_eq_some {α β : Type} [BEq α] [LawfulBEq α] {l : List (α × β)} {k : α} {v : β}
    (h : l.lookup k = some v) : (k, v) ∈ l := by
  obtain ⟨s, t, rfl, _⟩ := List.lookup_eq_some_iff.mp h
  exact List.mem_append_right _ List.mem_cons_self

theorem lookup_eq_none_of_not_mem {α β : Type} [BEq α] [LawfulBEq α] {l : List (α × β)} {k : α}
    (h : k ∉ l.map (·.1)) : l.lookup k = none := by
  rw [List.lookup_eq_none_iff]
  intro p hp
  rw [bne_iff_ne]
  intro e
  exact h (e ▸ List.mem_map_of_mem hp)

theorem lookup_cons_if {α β : Type} [BEq α] [LawfulBEq α] [DecidableEq α] (k : α) (b : β) (es : List (α × β)) (a : α) :
    ((k, b) :: es).lookup a = if a = k then some b else es.lookup a := by
  rw [List.lookup_cons]
  by_cases h : a = k
  · rw [if_pos h, beq_iff_eq.mpr h]
  · rw [if_neg h, beq_eq_false_iff_ne.mpr h]

theorem sum_map_take_succ {α : Type} {f : α → Nat} {l : List α} {n : Nat} {a : α} (h : l[n]? = some a) :
    ((l.take (n + 1)).map f).sum = ((l.take n).map f).sum + f a := by
  simp [List.take_add_one, h]

theorem sum_add_length_le (l : List Nat) (b : Nat) (hall : ∀ r ∈ l, r < b) : l.sum + l.length ≤ l.length * b := by
  induction l with
  | nil => simp
  | cons a rest ih =>
    have ha := hall a List.mem_cons_self
    have := ih (fun r hr => hall r (List.mem_cons_of_mem _ hr))
    simp only [List.sum_cons, List.length_cons, Nat.add_mul, Nat.one_mul]
    omega

theorem mapIdx_id {α : Type} (l : List α) : l.mapIdx (fun _ v => v) = l := by
  rw [List.mapIdx_eq_iff]
  intro i
  cases l[i]? <;> rfl

theorem flatMap_replicate {α β : Type} (l : List α) (n : α → Nat) (c : β) :
    l.flatMap (fun a => List.replicate (n a) c) = List.replicate (l.map n).sum c := by
  induction l with
  | nil => rfl
  | cons a as ih => rw [List.flatMap_cons, ih, List.map_cons, List.sum_cons, List.replicate_append_replicate]

theorem exists_of_length_eq_four {α : Type} (l : List α) (h : l.length = 4) : ∃ a b c d, l = [a, b, c, d] := by
  match l, h with
  | [a, b, c, d], _ => exact ⟨a, b, c, d, rfl⟩

end SSEPy
