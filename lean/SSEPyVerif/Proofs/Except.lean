/-
  A `do` block in `Except`, read forwards by rewriting and backwards from `f args = .ok r`: one iff per construct
  (`bind`, `pure`, `throw`, a guard), collected under `ok_inv`; the same for `= .error e`.
-/
import SSEPyVerif.Proofs.Attr
import SSEPyVerif.Proofs.List
namespace SSEPy
variable {ε α β : Type}

theorem ok_bind (a : α) (f : α → Except ε β) : Except.ok a >>= f = f a := rfl

theorem error_bind (e : ε) (f : α → Except ε β) : Except.error e >>= f = .error e := rfl

theorem pure_eq (a : α) : (pure a : Except ε α) = .ok a := rfl

theorem throw_eq (e : ε) : (throw e : Except ε α) = .error e := rfl

@[ok_inv] theorem bind_eq_ok {x : Except ε α} {f : α → Except ε β} {b : β} :
    x >>= f = .ok b ↔ ∃ a, x = .ok a ∧ f a = .ok b := by
  cases x with
  | error e =>
    rw [error_bind]
    constructor
    · exact nofun
    · intro ⟨_, hx, _⟩
      cases hx
  | ok a =>
    rw [ok_bind]
    constructor
    · exact fun h => ⟨a, rfl, h⟩
    · intro ⟨a', hx, h⟩
      cases hx
      exact h

@[ok_inv] theorem pure_eq_ok {a b : α} : (pure a : Except ε α) = .ok b ↔ a = b := by
  rw [pure_eq, Except.ok.injEq]

@[ok_inv] theorem throw_eq_ok {e : ε} {b : α} : (throw e : Except ε α) = .ok b ↔ False := by
  simp [throw_eq]

@[ok_inv] theorem error_eq_ok {e : ε} {b : α} : (.error e : Except ε α) = .ok b ↔ False := by
  simp

/-- a guard `if c then throw e` in a `do` block elaborates to `if c then (do throw e; rest) else rest`; the
    propositional lemmas added to the set below remove the branch that cannot have returned -/
@[ok_inv] theorem ite_eq_ok {c : Prop} [Decidable c] {x y : Except ε α} {b : α} :
    (if c then x else y) = .ok b ↔ (c ∧ x = .ok b) ∨ (¬ c ∧ y = .ok b) := by
  by_cases hc : c
  · rw [if_pos hc]
    simp only [hc, true_and, not_true_eq_false, false_and, or_false]
  · rw [if_neg hc]
    simp only [hc, false_and, not_false_eq_true, true_and, false_or]

attribute [ok_inv] Except.ok.injEq false_and and_false exists_false false_or or_false

theorem bne_and_bne {γ : Type} [BEq α] [LawfulBEq α] [BEq γ] [LawfulBEq γ] {a b : α} {c d : γ} (h1 : a ≠ b) (h2 : c ≠ d) :
    (a != b && c != d) = true :=
  Bool.and_eq_true_iff.mpr ⟨bne_iff_ne.mpr h1, bne_iff_ne.mpr h2⟩

theorem bind_eq_error {x : Except ε α} {f : α → Except ε β} {e : ε} :
    x >>= f = .error e ↔ x = .error e ∨ ∃ a, x = .ok a ∧ f a = .error e := by
  cases x with
  | error e' =>
    -- both sides say `e' = e`, at two types
    rw [error_bind]
    constructor
    · intro h
      cases h
      exact .inl rfl
    · intro h
      rcases h with h | ⟨_, hx, _⟩
      · cases h
        rfl
      · cases hx
  | ok a =>
    rw [ok_bind]
    constructor
    · exact fun h => .inr ⟨a, rfl, h⟩
    · intro h
      rcases h with hx | ⟨a', hx, h⟩
      · cases hx
      · cases hx
        exact h

theorem throw_eq_error {e e' : ε} : (throw e : Except ε α) = .error e' ↔ e = e' := by
  rw [throw_eq, Except.error.injEq]

theorem ite_eq_error {c : Prop} [Decidable c] {x y : Except ε α} {e : ε} :
    (if c then x else y) = .error e ↔ (c ∧ x = .error e) ∨ (¬ c ∧ y = .error e) := by
  by_cases hc : c
  · rw [if_pos hc]
    simp only [hc, true_and, not_true_eq_false, false_and, or_false]
  · rw [if_neg hc]
    simp only [hc, false_and, not_false_eq_true, true_and, false_or]

theorem mapM_inv {f : α → Except ε β} {l : List α} {l' : List β} (h : l.mapM f = .ok l') :
    Forall₂ (fun a b => f a = .ok b) l l' := by
  induction l generalizing l' with
  | nil =>
    simp only [List.mapM_nil, ok_inv] at h
    subst h
    exact .nil
  | cons a rest ih =>
    simp only [List.mapM_cons, ok_inv] at h
    obtain ⟨y, hy, ys, hys, rfl⟩ := h
    exact .cons hy (ih hys)

/-- the name is C08's: a configuration is refused, or `setup` fails loudly, or what the theorem claims -/
theorem refused_or_loud_or {γ : Type} (x : Except ε α) (f : α → Except ε (β × γ)) (P : α → β → γ → Prop)
    (h : ∀ a b c, x = .ok a → f a = .ok (b, c) → P a b c) :
    (∃ e, x = .error e) ∨ ∃ a, x = .ok a ∧ ((∃ e, f a = .error e) ∨ ∃ b c, f a = .ok (b, c) ∧ P a b c) := by
  cases hx : x with
  | error e => exact .inl ⟨e, rfl⟩
  | ok a =>
    refine .inr ⟨a, rfl, ?_⟩
    cases hf : f a with
    | error e => exact .inl ⟨e, rfl⟩
    | ok r => exact .inr ⟨r.1, r.2, rfl, h a r.1 r.2 hx hf⟩

end SSEPy
