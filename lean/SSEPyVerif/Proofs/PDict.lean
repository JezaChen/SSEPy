/-
  Association lists with update in place (`Model/PDict.lean`): the keys after `dinsert` and `derase`, `lookup` of an
  absent key (`lookup` after an update: `Props/C20.lean`).
-/
import SSEPyVerif.Model.PDict
namespace SSEPy.PDict

theorem lookup_eq_none {k : Bytes} : ∀ {a : Assoc}, k ∉ a.map Prod.fst → lookup k a = none
  | [], _ => rfl
  | (k', v) :: rest, h => by
    simp only [List.map_cons, List.mem_cons, not_or] at h
    rw [lookup, if_neg (fun e => h.1 e.symm)]
    exact lookup_eq_none h.2

theorem map_fst_dinsert (k v : Bytes) : ∀ a : Assoc,
    (dinsert k v a).map Prod.fst = if k ∈ a.map Prod.fst then a.map Prod.fst else a.map Prod.fst ++ [k]
  | [] => rfl
  | (pk, pv) :: rest => by
    by_cases hp : pk = k
    · subst hp; simp [dinsert]
    · have : ¬ k = pk := fun e => hp e.symm
      simp only [dinsert, hp, ↓reduceIte, List.map_cons, map_fst_dinsert k v rest, List.mem_cons, this, false_or]
      split <;> rfl

theorem mem_of_mem_derase (k x : Bytes) : ∀ a : Assoc, x ∈ (derase k a).map Prod.fst → x ∈ a.map Prod.fst
  | [], h => h
  | (pk, pv) :: rest, h => by
    rw [derase] at h
    split at h
    · exact List.mem_cons_of_mem _ h
    · rcases List.mem_cons.mp h with h | h
      · exact h ▸ List.mem_cons_self
      · exact List.mem_cons_of_mem _ (mem_of_mem_derase k x rest h)

end SSEPy.PDict
