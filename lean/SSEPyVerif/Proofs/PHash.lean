/-
  `_tls_p_hash` and the counter-mode expansion both produce a prefix of a stream of equal-length blocks
  `f 0 ++ f 1 ++ …`; the loop invariants identify the streams (RFC 5246 P_hash, `H(m‖1)‖H(m‖2)‖…`).
-/
import SSEPyVerif.Model.PHash
import SSEPyVerif.Proofs.Basic
import SSEPyVerif.Proofs.Except
import SSEPyVerif.Proofs.List
namespace SSEPy

/-- from any chaining value `A(j+1)` and accumulator: what the induction on `n` needs -/
theorem pHashLoop_eq (hmac : Hmac) (key msg : Bytes) :
    ∀ (n j : Nat) (res : Bytes),
      pHashLoop hmac key msg n (rfcA hmac key msg (j + 1)) res
        = res ++ ((List.range n).map fun i => rfcBlock hmac key msg (j + 1 + i)).flatten := by
  intro n
  induction n with
  | zero => intro j res; simp [pHashLoop]
  | succ n ih =>
    intro j res
    unfold pHashLoop
    have hA : hmac key (rfcA hmac key msg (j + 1)) = rfcA hmac key msg (j + 1 + 1) := rfl
    rw [hA, ih (j + 1), List.range_succ_eq_map]
    simp only [List.map_cons, List.map_map, List.flatten_cons, List.append_assoc, Nat.add_zero]
    -- the first block is block `j + 1`; the others are shifted by one: `j + 1 + 1 + i = j + 1 + (i + 1)`
    congr 2
    · congr 1
      apply List.map_congr_left
      intro i _
      congr 1; omega

theorem pHashLoop_rfc (hmac : Hmac) (key msg : Bytes) (n : Nat) :
    pHashLoop hmac key msg n (hmac key msg) [] = rfcStream hmac key msg n := by
  rw [show hmac key msg = rfcA hmac key msg (0 + 1) from rfl, pHashLoop_eq, List.nil_append, rfcStream]
  congr 2
  funext i
  rw [Nat.zero_add, Nat.add_comm]

theorem rfcStream_length (hmac : Hmac) (d : Nat) (hd : ∀ k m, (hmac k m).length = d) (key msg : Bytes) (n : Nat) :
    (rfcStream hmac key msg n).length = n * d :=
  length_flatten_range_map _ d (fun _ => hd _ _) n

/-- counter-mode stream: `H(m ‖ 1) ‖ H(m ‖ 2) ‖ … ‖ H(m ‖ n)` with minimal big-endian counters -/
def ctrStream (hash : Bytes → Bytes) (msg : Bytes) (n : Nat) : Bytes :=
  ((List.range n).map fun i => hash (msg ++ natToBytesMin (i + 1))).flatten

theorem ctrStream_succ (hash : Bytes → Bytes) (msg : Bytes) (n : Nat) :
    ctrStream hash msg (n + 1) = ctrStream hash msg n ++ hash (msg ++ natToBytesMin (n + 1)) := by
  unfold ctrStream
  rw [List.range_succ, List.map_append, List.flatten_append]; simp

theorem ctrStream_length (hash : Bytes → Bytes) (d : Nat) (hd : ∀ m, (hash m).length = d) (msg : Bytes) (n : Nat) :
    (ctrStream hash msg n).length = n * d :=
  length_flatten_range_map _ d (fun _ => hd _) n

/-- entered with `j` digests; a pass appends `d ≥ 1` bytes, so `outLen + 1 ≤ fuel + j * d` is kept to the end -/
theorem ctrLoop_returns (hash : Bytes → Bytes) (d : Nat) (hd : ∀ m, (hash m).length = d) (hd0 : 0 < d)
    (msg : Bytes) (outLen : Nat) :
    ∀ (fuel j : Nat), 1 ≤ fuel → outLen + 1 ≤ fuel + j * d →
      ∃ n, outLen ≤ n * d ∧
        ctrLoop hash msg outLen fuel (j + 1) (ctrStream hash msg j) = .ok ((ctrStream hash msg n).take outLen) := by
  intro fuel
  induction fuel with
  | zero => intro j h1 _; omega
  | succ f ih =>
    intro j _ h
    unfold ctrLoop
    by_cases hlt : (ctrStream hash msg j).length < outLen
    · simp only [hlt, ↓reduceIte]
      rw [← ctrStream_succ]
      rw [ctrStream_length hash d hd msg] at hlt
      have hf : 1 ≤ f := by omega
      have hinv : outLen + 1 ≤ f + (j + 1) * d := by
        rw [Nat.succ_mul]
        omega
      exact ih (j + 1) hf hinv
    · simp only [hlt, ↓reduceIte]
      rw [ctrStream_length hash d hd msg] at hlt
      exact ⟨j, by omega, rfl⟩

theorem HmacPRF.call_eq_ok {p : HmacPRF} {hmac : Hmac} {key msg r : Bytes} :
    p.call hmac key msg = .ok r ↔
      (p.keyLength = LENGTH_UNLIMITED ∨ (key.length : Int) = p.keyLength) ∧
      (p.messageLength = LENGTH_UNLIMITED ∨ (msg.length : Int) = p.messageLength) ∧
      tlsPHash hmac p.hashLen key msg p.outputLength = r := by
  simp only [HmacPRF.call, ok_inv, Bool.and_eq_true, bne_iff_ne, ne_eq, Decidable.not_not,
    Decidable.not_and_iff_not_or_not]

end SSEPy
