/-
  CBC over 16-byte blocks and PKCS7: decryption undoes encryption block by block, unpadding undoes padding.
-/
import SSEPyVerif.Model.Cbc
import SSEPyVerif.Proofs.Bytes
namespace SSEPy

theorem blocks16_all16 (x : Bytes) (h : x.length % 16 = 0) : ∀ b ∈ blocks16 x, b.length = 16 :=
  chunksFuel_mem_length_of_mod_eq_zero (by decide) x (Nat.le_refl _) h

theorem flatten_blocks16 (x : Bytes) : (blocks16 x).flatten = x :=
  flatten_chunksFuel (by decide) x (Nat.le_refl _)

theorem blocks16_flatten (bs : List Bytes) (h : ∀ b ∈ bs, b.length = 16) : blocks16 bs.flatten = bs :=
  chunksFuel_flatten (by omega) bs h _ (Nat.le_refl _)

theorem cbcEnc_length (E : BlockFn) (k prev : Bytes) (ps : List Bytes) :
    (cbcEnc E k prev ps).length = ps.length := by
  induction ps generalizing prev with
  | nil => simp [cbcEnc]
  | cons p ps ih => simp [cbcEnc, ih]

theorem cbcEnc_all16 (E : BlockFn) (k : Bytes) (hE : ∀ x : Bytes, x.length = 16 → (E k x).length = 16) :
    ∀ (ps : List Bytes) (prev : Bytes), (∀ p ∈ ps, p.length = 16) →
      ∀ c ∈ cbcEnc E k prev ps, c.length = 16 := by
  intro ps
  induction ps with
  | nil => intro prev _ c hc; simp [cbcEnc] at hc
  | cons p ps ih =>
    intro prev hp c hc
    simp only [cbcEnc, List.mem_cons] at hc
    have h16 : (xorPrefix p prev).length = 16 := by rw [xorPrefix_length]; exact hp p (by simp)
    rcases hc with rfl | hc
    · exact hE _ h16
    · exact ih _ (fun q hq => hp q (by simp [hq])) c hc

theorem cbcDec_cbcEnc {n : Nat} (E D : BlockFn) (k : Bytes)
    (hDE : ∀ x : Bytes, x.length = n → D k (E k x) = x) :
    ∀ (ps : List Bytes) (prev : Bytes), (∀ p ∈ ps, p.length = n) →
      cbcDec D k prev (cbcEnc E k prev ps) = ps := by
  intro ps
  induction ps with
  | nil => intro prev _; simp [cbcEnc, cbcDec]
  | cons p ps ih =>
    intro prev hp
    simp only [cbcEnc, cbcDec]
    have hn : (xorPrefix p prev).length = n := by rw [xorPrefix_length]; exact hp p (by simp)
    rw [hDE _ hn, xorPrefix_involution, ih _ (fun q hq => hp q (by simp [hq]))]

theorem pkcs7Pad_length (m : Bytes) : (pkcs7Pad m).length = 16 * (m.length / 16 + 1) := by
  unfold pkcs7Pad
  simp only [List.length_append, List.length_replicate]
  have := Nat.div_add_mod m.length 16
  have := Nat.mod_lt m.length (show 0 < 16 by omega)
  omega

theorem pkcs7Pad_length_mod (m : Bytes) : (pkcs7Pad m).length % 16 = 0 := by
  rw [pkcs7Pad_length, Nat.mul_mod_right]

theorem pkcs7Unpad_pad (m : Bytes) : pkcs7Unpad (pkcs7Pad m) = .ok m := by
  have hmod := Nat.mod_lt m.length (show 0 < 16 by omega)
  -- `p` is the number of padding bytes, which is also their value
  obtain ⟨p, hp, hp1, hp16⟩ : ∃ p, 16 - m.length % 16 = p ∧ 1 ≤ p ∧ p ≤ 16 :=
    ⟨_, rfl, Nat.sub_pos_of_lt hmod, Nat.sub_le _ _⟩
  have hpad : pkcs7Pad m = m ++ List.replicate p (UInt8.ofNat p) := by rw [pkcs7Pad, hp]
  have hnat : (UInt8.ofNat p).toNat = p := by simp [UInt8.toNat_ofNat']; omega
  have hlast : (pkcs7Pad m).getLastD 0 = UInt8.ofNat p := by
    obtain ⟨q, rfl⟩ : ∃ q, p = q + 1 := ⟨p - 1, by omega⟩
    rw [hpad, List.replicate_succ', ← List.append_assoc, List.getLastD_concat]
  -- the three tests of `pkcs7Unpad`: the padded text is a positive number of blocks, its last byte `p` is
  -- in `1..16`, and the last `p` bytes all equal `p`
  have hne : ¬ ((pkcs7Pad m).length == 0 || (pkcs7Pad m).length % 16 != 0) = true := by
    rw [pkcs7Pad_length]; simp
  have hrange : ¬ (p == 0 || decide (p > 16)) = true := by
    simp only [beq_iff_eq, Bool.or_eq_true, decide_eq_true_eq]; omega
  have hsub : (pkcs7Pad m).length - p = m.length := by rw [hpad]; simp
  unfold pkcs7Unpad
  rw [if_neg hne, hlast, hnat, if_neg hrange]
  rw [hsub, hpad, List.drop_left, List.take_left, if_pos (by simp)]

theorem AESxCBC.encrypt_eq_ok {s : AESxCBC} {E : BlockFn} {key iv msg c : Bytes} :
    s.encrypt E key iv msg = .ok c ↔ (s.messageLength = -1 ∨ (msg.length : Int) = s.messageLength) ∧
      (key.length : Int) = s.keyLength ∧ iv ++ (cbcEnc E key iv (blocks16 (pkcs7Pad msg))).flatten = c := by
  simp only [AESxCBC.encrypt, ok_inv, Bool.and_eq_true, bne_iff_ne, ne_eq, Decidable.not_not,
    Decidable.not_and_iff_not_or_not]

theorem AESxCBC.decrypt_eq_ok {s : AESxCBC} {D : BlockFn} {key ct m : Bytes} :
    s.decrypt D key ct = .ok m ↔ (s.cipherLength = -1 ∨ (ct.length : Int) = s.cipherLength) ∧
      (key.length : Int) = s.keyLength ∧ (ct.take 16).length = 16 ∧ (ct.drop 16).length % 16 = 0 ∧
      pkcs7Unpad (cbcDec D key (ct.take 16) (blocks16 (ct.drop 16))).flatten = .ok m := by
  simp only [AESxCBC.decrypt, ok_inv, Bool.and_eq_true, bne_iff_ne, ne_eq, Decidable.not_not,
    Decidable.not_and_iff_not_or_not]

end SSEPy
