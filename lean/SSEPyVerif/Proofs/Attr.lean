import Lean.Meta.Tactic.Simp.RegisterCommand

/-- `simp only [f, ok_inv] at h` turns `h : f args = .ok r`, `f` a `do` block in `Except`, into the conjunction of its
    steps.  A guard leaves its negated condition as it is written; one made of `!=` and `&&` needs
    `Bool.and_eq_true, bne_iff_ne, ne_eq, Decidable.not_not, Decidable.not_and_iff_not_or_not` added to the call
    (`AESxCBC.encrypt_eq_ok`). -/
register_simp_attr ok_inv
