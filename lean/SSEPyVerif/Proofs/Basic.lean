/-
  Arithmetic of the helpers in `Model/Basic.lean` (`ceilDiv`, `clog2`, `log2`, `bitLength`), the value of a digit
  string in any radix, and two facts about `Int.toNat`.
-/
import SSEPyVerif.Model.Basic
namespace SSEPy

/-- The ceiling quotient is the least `q` with `n ≤ d * q`; the other facts about it are read off this. -/
theorem ceilDiv_le_iff {n d q : Nat} (hd : 0 < d) : ceilDiv n d ≤ q ↔ n ≤ d * q := by
  rw [ceilDiv, Nat.div_le_iff_le_mul_add_pred hd]
  omega

theorem zero_ceilDiv {d : Nat} (hd : 0 < d) : ceilDiv 0 d = 0 :=
  Nat.le_zero.mp ((ceilDiv_le_iff hd).mpr (Nat.zero_le _))

theorem le_ceilDiv_mul (n d : Nat) (hd : 0 < d) : n ≤ ceilDiv n d * d := by
  rw [Nat.mul_comm]
  exact (ceilDiv_le_iff hd).mp (Nat.le_refl _)

theorem ceilDiv_ceilDiv (n d e : Nat) (hd : 0 < d) (he : 0 < e) : ceilDiv (ceilDiv n d) e = ceilDiv n (d * e) := by
  -- both sides have the same upper bounds
  have key : ∀ q, ceilDiv (ceilDiv n d) e ≤ q ↔ ceilDiv n (d * e) ≤ q := fun q => by
    rw [ceilDiv_le_iff he, ceilDiv_le_iff hd, ceilDiv_le_iff (Nat.mul_pos hd he), Nat.mul_assoc]
  exact Nat.le_antisymm ((key _).mpr (Nat.le_refl _)) ((key _).mp (Nat.le_refl _))

theorem ceilDiv_step {n d : Nat} (hn : 0 < n) (hd : 0 < d) : ceilDiv n d = ceilDiv (n - d) d + 1 := by
  apply Nat.le_antisymm
  · have := (ceilDiv_le_iff hd).mp (Nat.le_refl (ceilDiv (n - d) d))
    exact (ceilDiv_le_iff hd).mpr (Nat.sub_le_iff_le_add.mp this)
  · -- the quotient `q + 1` of `n` is positive since `n` is, and `n ≤ d * (q + 1)` gives `n - d ≤ d * q`
    have hq := (ceilDiv_le_iff hd).mp (Nat.le_refl (ceilDiv n d))
    cases hq' : ceilDiv n d with
    | zero =>
      rw [hq'] at hq
      exact absurd hn (Nat.not_lt.mpr hq)
    | succ q =>
      rw [hq'] at hq
      exact Nat.succ_le_succ ((ceilDiv_le_iff hd).mpr (Nat.sub_le_iff_le_add.mpr hq))

theorem le_two_pow_clog2 (n : Nat) : n ≤ 2 ^ clog2 n := by
  unfold clog2
  split
  · rw [Nat.pow_zero]; omega
  · have := Nat.lt_log2_self (n := n - 1)
    omega

theorem two_pow_clog2_lt (n : Nat) (h : 1 ≤ n) : 2 ^ clog2 n < 2 * n := by
  unfold clog2
  split
  · have : n = 1 := by omega
    subst this; decide
  · have := Nat.log2_self_le (n := n - 1) (by omega)
    rw [Nat.pow_succ]
    omega

theorem clog2_le (n k : Nat) (h : n ≤ 2 ^ k) : clog2 n ≤ k := by
  unfold clog2
  split
  · omega
  · rename_i h1
    have hn : n - 1 ≠ 0 := by omega
    have hpos := Nat.two_pow_pos k
    have : Nat.log2 (n - 1) < k := (Nat.log2_lt hn).mpr (by omega)
    omega

theorem log2_le (n k : Nat) (h1 : 1 ≤ n) (h : n ≤ 2 ^ k) : Nat.log2 n ≤ k := by
  have hn : n ≠ 0 := by omega
  have hpos := Nat.two_pow_pos k
  have hlt : n < 2 ^ (k + 1) := by
    rw [Nat.pow_succ]
    omega
  have : Nat.log2 n < k + 1 := (Nat.log2_lt hn).mpr hlt
  omega

theorem bitLength_le_iff (v n : Nat) : bitLength v ≤ n ↔ v < 2 ^ n := by
  unfold bitLength
  split
  · subst_vars
    exact ⟨fun _ => Nat.pow_pos (by decide), fun _ => Nat.zero_le _⟩
  · rename_i h
    constructor
    · intro hle
      calc v < 2 ^ (v.log2 + 1) := Nat.lt_log2_self
        _ ≤ 2 ^ n := Nat.pow_le_pow_right (by omega) hle
    · intro hlt
      have := (Nat.log2_lt h).mpr hlt
      omega

theorem lt_two_pow_bitLength (v : Nat) : v < 2 ^ bitLength v := (bitLength_le_iff v _).mp (Nat.le_refl _)

theorem le_two_pow_sub {a j n : Nat} (h : a * 2 ^ j ≤ 2 ^ n) (hj : j ≤ n) : a ≤ 2 ^ (n - j) := by
  have e : 2 ^ n = 2 ^ (n - j) * 2 ^ j := by rw [← Nat.pow_add, Nat.sub_add_cancel hj]
  exact Nat.le_of_mul_le_mul_right (e ▸ h) (Nat.two_pow_pos j)

theorem foldl_radix {α} (B : Nat) (g : α → Nat) (l : List α) : ∀ acc : Nat,
    l.foldl (fun acc d => acc * B + g d) acc = acc * B ^ l.length + l.foldl (fun acc d => acc * B + g d) 0 := by
  induction l with
  | nil => intro acc; simp
  | cons x xs ih =>
    intro acc
    rw [List.foldl_cons, List.foldl_cons, ih, ih (0 * B + g x), Nat.zero_mul, Nat.zero_add, List.length_cons,
      Nat.pow_succ, Nat.add_mul, Nat.mul_assoc, Nat.mul_comm B, Nat.add_assoc]

theorem foldl_radix_lt {α} (B : Nat) (g : α → Nat) (hg : ∀ d, g d < B) (l : List α) :
    l.foldl (fun acc d => acc * B + g d) 0 < B ^ l.length := by
  induction l with
  | nil => exact Nat.one_pos
  | cons x xs ih =>
    rw [List.foldl_cons, foldl_radix, Nat.zero_mul, Nat.zero_add, List.length_cons, Nat.pow_succ]
    calc g x * B ^ xs.length + _ < g x * B ^ xs.length + B ^ xs.length := Nat.add_lt_add_left ih _
      _ = (g x + 1) * B ^ xs.length := by rw [Nat.add_mul, Nat.one_mul]
      _ ≤ B * B ^ xs.length := Nat.mul_le_mul_right _ (hg x)
      _ = B ^ xs.length * B := Nat.mul_comm _ _

theorem toNat_mul (a b : Int) (ha : 0 < a) (hb : 0 < b) : (a * b).toNat = a.toNat * b.toNat :=
  Int.toNat_mul (Int.le_of_lt ha) (Int.le_of_lt hb)

theorem fdiv_toNat (a b : Int) (ha : 0 ≤ a) (hb : 0 < b) : (Int.fdiv a b).toNat = a.toNat / b.toNat := by
  obtain ⟨m, rfl⟩ := Int.eq_ofNat_of_zero_le ha
  obtain ⟨n, rfl⟩ := Int.eq_ofNat_of_zero_le (Int.le_of_lt hb)
  rw [Int.fdiv_eq_ediv_of_nonneg _ (Int.le_of_lt hb), ← Int.natCast_ediv]
  rfl

end SSEPy
