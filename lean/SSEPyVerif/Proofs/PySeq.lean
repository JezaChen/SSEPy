/-
  Facts about Python's `slice.indices` / `range` model: the indices a slice selects are in range and
  pairwise distinct; a descending range is handled as the mirror image of an ascending one.
-/
import SSEPyVerif.Model.PySeq
import SSEPyVerif.Proofs.Except
namespace SSEPy

theorem pyRange_mem {a b st x : Int} (h : x ∈ pyRange a b st) :
    ∃ k : Nat, k < rangeLen a b st ∧ x = a + (k : Int) * st := by
  unfold pyRange at h
  simp only [List.mem_map, List.mem_range] at h
  obtain ⟨k, hk, rfl⟩ := h
  exact ⟨k, hk, rfl⟩

theorem pyRange_pos_bounds {a b st x : Int} (hst : 0 < st) (h : x ∈ pyRange a b st) : a ≤ x ∧ x < b := by
  obtain ⟨k, hk, rfl⟩ := pyRange_mem h
  unfold rangeLen at hk
  simp only [gt_iff_lt, hst, ↓reduceIte] at hk
  split at hk
  · rename_i hab
    -- `k + 1 ≤ ⌊(b - a + st - 1) / st⌋`, so `(k + 1) · st ≤ b - a + st - 1`
    have hk1 : ((k : Int) + 1) * st ≤ b - a + st - 1 := (Int.le_ediv_iff_mul_le hst).mp (by omega)
    have hnn : 0 ≤ (k : Int) * st := Int.mul_nonneg (Int.natCast_nonneg k) (Int.le_of_lt hst)
    rw [Int.add_mul, Int.one_mul] at hk1
    constructor <;> omega
  · omega

theorem rangeLen_neg {a b st : Int} (hst : st < 0) : rangeLen a b st = rangeLen (-a) (-b) (-st) := by
  unfold rangeLen
  rw [if_neg (Int.lt_asymm hst), if_pos (Int.neg_pos_of_neg hst), show -b - -a + -st - 1 = a - b - st - 1 by omega]
  simp only [gt_iff_lt, Int.neg_lt_neg_iff]

theorem pyRange_neg_bounds {a b st x : Int} (hst : st < 0) (h : x ∈ pyRange a b st) : b < x ∧ x ≤ a := by
  obtain ⟨k, hk, rfl⟩ := pyRange_mem h
  have hm : -a + (k : Int) * -st ∈ pyRange (-a) (-b) (-st) :=
    List.mem_map.mpr ⟨k, List.mem_range.mpr (by rw [← rangeLen_neg hst]; exact hk), rfl⟩
  have := pyRange_pos_bounds (by omega) hm
  rw [Int.mul_neg] at this
  omega

theorem pyRange_nodup {a b st : Int} (hst : st ≠ 0) : (pyRange a b st).Nodup := by
  unfold pyRange
  have h := @List.nodup_range (rangeLen a b st)
  unfold List.Nodup at h ⊢
  apply List.Pairwise.map _ _ h
  intro x y hxy hE
  have : (x : Int) * st = (y : Int) * st := by omega
  have := Int.eq_of_mul_eq_mul_right hst this
  omega

theorem clampIdx_bounds (v n lower upper : Int) (hl : lower ≤ upper) (hu : n - 1 ≤ upper) (hl0 : lower ≤ 0) :
    lower ≤ clampIdx v n lower upper ∧ clampIdx v n lower upper ≤ upper := by
  unfold clampIdx
  split
  · exact ⟨Int.le_max_right _ _, Int.max_le.mpr ⟨by omega, hl⟩⟩
  · exact ⟨Int.le_min.mpr ⟨by omega, hl⟩, Int.min_le_right _ _⟩

theorem sliceIndices_inv {s e st : Option Int} {len : Nat} {a b c : Int}
    (h : sliceIndices s e st len = .ok (a, b, c)) :
    c ≠ 0 ∧ (if c < 0 then -1 else 0) ≤ a ∧ a ≤ (if c < 0 then (len : Int) - 1 else len) ∧
      (if c < 0 then -1 else 0) ≤ b ∧ b ≤ (if c < 0 then (len : Int) - 1 else len) := by
  simp only [sliceIndices, ok_inv, beq_iff_eq, Prod.mk.injEq] at h
  obtain ⟨hc0, rfl, rfl, rfl⟩ := h
  refine ⟨hc0, ?_⟩
  -- a missing bound is one of the two ends, a given one is clamped
  have hb : ∀ {lower upper : Int}, lower ≤ upper → (len : Int) - 1 ≤ upper → lower ≤ 0 →
      ∀ (o : Option Int) (d : Int), lower ≤ d → d ≤ upper →
      lower ≤ (match o with | none => d | some v => clampIdx v len lower upper) ∧
      (match o with | none => d | some v => clampIdx v len lower upper) ≤ upper := by
    intro lower upper hl hu hl0 o d h1 h2
    cases o with
    | none => exact ⟨h1, h2⟩
    | some v => exact clampIdx_bounds v len lower upper hl hu hl0
  have hlen : (0 : Int) ≤ len := Int.natCast_nonneg len
  by_cases hneg : st.getD 1 < 0
  · simp only [hneg, ↓reduceIte]
    have hl : (-1 : Int) ≤ len - 1 := by omega
    have ha := hb hl (Int.le_refl _) (by decide) s _ hl (Int.le_refl _)
    have he := hb hl (Int.le_refl _) (by decide) e _ (Int.le_refl _) hl
    exact ⟨ha.1, ha.2, he.1, he.2⟩
  · simp only [hneg, ↓reduceIte]
    have ha := hb hlen (by omega) (Int.le_refl _) s _ (Int.le_refl _) hlen
    have he := hb hlen (by omega) (Int.le_refl _) e _ hlen (Int.le_refl _)
    exact ⟨ha.1, ha.2, he.1, he.2⟩

theorem sliceRange_inv {s e st : Option Int} {len : Nat} {idx : List Int}
    (h : sliceRange s e st len = .ok idx) :
    ∃ a b c, sliceIndices s e st len = .ok (a, b, c) ∧ idx = pyRange a b c := by
  simp only [sliceRange, ok_inv] at h
  obtain ⟨⟨a, b, c⟩, hsi, rfl⟩ := h
  exact ⟨a, b, c, hsi, rfl⟩

theorem sliceRange_bounds {s e st : Option Int} {len : Nat} {idx : List Int}
    (h : sliceRange s e st len = .ok idx) : ∀ p ∈ idx, 0 ≤ p ∧ p < (len : Int) := by
  obtain ⟨a, b, c, hsi, rfl⟩ := sliceRange_inv h
  obtain ⟨hc0, ha1, ha2, hb1, hb2⟩ := sliceIndices_inv hsi
  intro p hp
  by_cases hc : c < 0
  · rw [if_pos hc] at ha1 ha2 hb1 hb2
    have := pyRange_neg_bounds hc hp
    omega
  · rw [if_neg hc] at ha1 ha2 hb1 hb2
    have := pyRange_pos_bounds (by omega) hp
    omega

theorem sliceRange_nodup {s e st : Option Int} {len : Nat} {idx : List Int}
    (h : sliceRange s e st len = .ok idx) : idx.Nodup := by
  obtain ⟨a, b, c, hsi, rfl⟩ := sliceRange_inv h
  exact pyRange_nodup (sliceIndices_inv hsi).1

theorem rangeLen_zero_one (n : Nat) : rangeLen 0 n 1 = n := by
  unfold rangeLen
  rw [if_pos (by decide)]
  split
  · rw [Int.sub_zero, Int.add_sub_cancel, Int.ediv_one, Int.toNat_natCast]
  · omega

theorem sliceRange_full (n : Nat) :
    sliceRange none none none n = .ok ((List.range n).map fun (i : Nat) => (i : Int)) := by
  show Except.ok (pyRange 0 n 1) = _
  rw [pyRange, rangeLen_zero_one]
  congr 1
  apply List.map_congr_left
  intro i _
  omega

theorem sliceRange_error {s e st : Option Int} {len : Nat} {err : Err}
    (h : sliceRange s e st len = .error err) : err = .valueError ∧ st = some 0 := by
  unfold sliceRange sliceIndices at h
  by_cases h0 : (st.getD 1 == 0) = true
  · rw [if_pos h0, error_bind, Except.error.injEq] at h
    refine ⟨h.symm, ?_⟩
    cases st with
    | none => exact absurd h0 (by decide)
    | some v => rw [show v = 0 from beq_iff_eq.mp h0]
  · rw [if_neg h0, ok_bind] at h
    cases h

end SSEPy
