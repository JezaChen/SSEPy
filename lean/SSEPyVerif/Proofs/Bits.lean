/-
  Bit strings.  `toBits` and `ofBits` are mutually inverse on well-formed pairs; concatenation, the higher/lower bits
  and the halves are arithmetic on the values, and `toBits_append` (the bits of `x·2^m + y`) says what that
  arithmetic does to the lists.
-/
import SSEPyVerif.Model.Bits
import SSEPyVerif.Proofs.Basic
import SSEPyVerif.Proofs.Bytes
namespace SSEPy
namespace Bitset

/-- MSB-first list of bits → Bitset (the reference model's constructor). -/
def ofBits (l : List Bool) : Bitset := ⟨l.foldl (fun acc b => 2 * acc + (if b then 1 else 0)) 0, l.length⟩

theorem toBits_length (a : Bitset) : a.toBits.length = a.length := by simp [toBits]

theorem getElem_toBits (a : Bitset) (i : Nat) (h : i < a.toBits.length) :
    a.toBits[i] = a.value.testBit (a.length - i - 1) := by
  simp [toBits, bitAt]

theorem toBits_append (x y n m : Nat) (hy : y < 2 ^ m) :
    (⟨x * 2 ^ m + y, n + m⟩ : Bitset).toBits = (⟨x, n⟩ : Bitset).toBits ++ (⟨y, m⟩ : Bitset).toBits := by
  simp only [toBits, List.range_add, List.map_append, List.map_map]
  rw [Nat.mul_comm]
  congr 1
  · apply List.map_congr_left
    intro i hi
    have hi := List.mem_range.mp hi
    show (2 ^ m * x + y).testBit (n + m - i - 1) = x.testBit (n - i - 1)
    rw [Nat.sub_add_comm (Nat.le_of_lt hi), Nat.sub_add_comm (Nat.sub_pos_of_lt hi),
      Nat.testBit_two_pow_mul_add _ hy, if_neg (Nat.not_lt.mpr (Nat.le_add_left _ _)), Nat.add_sub_cancel]
  · apply List.map_congr_left
    intro i hi
    have hi := List.mem_range.mp hi
    show (2 ^ m * x + y).testBit (n + m - (n + i) - 1) = y.testBit (m - i - 1)
    rw [Nat.add_sub_add_left, Nat.testBit_two_pow_mul_add _ hy,
      if_pos (Nat.lt_of_lt_of_le (Nat.sub_one_lt (Nat.sub_ne_zero_of_lt hi)) (Nat.sub_le _ _))]

/-- `ofBits` with its fold in the form `foldl_radix` speaks of: `acc * 2` where the definition has `2 * acc` -/
theorem ofBits_eq (l : List Bool) :
    ofBits l = ⟨l.foldl (fun acc b => acc * 2 + (if b then 1 else 0)) 0, l.length⟩ := by
  have : (fun acc (b : Bool) => 2 * acc + (if b then 1 else 0)) = fun acc b => acc * 2 + (if b then 1 else 0) := by
    funext acc b; rw [Nat.mul_comm]
  rw [ofBits, this]

theorem ofBits_wf (l : List Bool) : (ofBits l).WF := by
  rw [ofBits_eq]
  exact foldl_radix_lt 2 _ (fun b => by cases b <;> decide) l

theorem toBits_ofBits (l : List Bool) : (ofBits l).toBits = l := by
  induction l with
  | nil => rfl
  | cons x xs ih =>
    have hw := ofBits_wf xs
    rw [ofBits_eq] at ih hw
    -- the value of `x :: xs` is `x·2^|xs|` plus the value of `xs`
    rw [ofBits_eq, List.foldl_cons, foldl_radix, Nat.zero_mul, Nat.zero_add, List.length_cons, Nat.add_comm _ 1,
      toBits_append _ _ _ _ hw, ih]
    cases x <;> rfl

theorem mk'_of_lt (v len : Nat) (h : v < 2 ^ len) : mk' v len = .ok ⟨v, len⟩ := by
  by_cases hlen : len = 0
  · subst hlen
    have hv : v = 0 := by simpa using h
    subst hv
    rfl
  · have hfits : bitLength v ≤ len := (bitLength_le_iff v len).mpr h
    unfold mk'
    rw [if_neg (fun c => Nat.not_lt.mpr hfits c.2), if_pos hlen]

theorem mk'_eq_ok {v len : Nat} {b : Bitset} (hlen : len ≠ 0) : mk' v len = .ok b ↔ v < 2 ^ len ∧ b = ⟨v, len⟩ := by
  unfold mk'
  rw [← bitLength_le_iff, if_pos hlen]
  by_cases h : bitLength v > len
  · rw [if_pos ⟨hlen, h⟩]
    exact ⟨(nomatch ·), fun e => absurd e.1 (by omega)⟩
  · rw [if_neg (fun c => h c.2), Except.ok.injEq]
    exact ⟨fun e => ⟨by omega, e.symm⟩, fun e => e.2.symm⟩

theorem mk'_inv {v len : Nat} {b : Bitset} (h : mk' v len = .ok b) : b.WF ∧ b.value = v ∧ (len ≠ 0 → b.length = len) := by
  unfold mk' at h
  split at h
  · cases h
  · rename_i hc
    cases h
    refine ⟨?_, rfl, fun hl => by simp [hl]⟩
    unfold WF
    simp only
    split
    · rename_i hl
      have : ¬ (bitLength v > len) := fun hgt => hc ⟨hl, hgt⟩
      exact (bitLength_le_iff v len).mp (by omega)
    · exact lt_two_pow_bitLength v

theorem WF.le {a : Bitset} (ha : a.WF) {n : Nat} (h : a.length ≤ n) : a.value < 2 ^ n :=
  Nat.lt_of_lt_of_le ha (Nat.pow_le_pow_right (by decide) h)

theorem length_xor (a b : Bitset) : (a.xor b).length = max a.length b.length := rfl

theorem WF.xor {a b : Bitset} (ha : a.WF) (hb : b.WF) : (a.xor b).WF :=
  Nat.xor_lt_two_pow (ha.le (Nat.le_max_left _ _)) (hb.le (Nat.le_max_right _ _))

theorem xor_cancel (a g : Bitset) (h : g.length ≤ a.length) : (a.xor g).xor g = a := by
  cases a with | mk av al =>
  cases g with | mk gv gl =>
  simp only at h
  simp [Bitset.xor, Nat.xor_assoc, Nat.max_eq_left h]

theorem toBits_split (a : Bitset) (n j : Nat) (h : a.length = n + j) :
    a.toBits = (⟨a.value / 2 ^ j, n⟩ : Bitset).toBits ++ (⟨a.value % 2 ^ j, j⟩ : Bitset).toBits := by
  rw [← toBits_append _ _ _ _ (Nat.mod_lt _ (Nat.pow_pos (by omega))), Nat.div_add_mod', ← h]

theorem foldl_toBits : ∀ (n v : Nat), v < 2 ^ n →
    (⟨v, n⟩ : Bitset).toBits.foldl (fun acc b => acc * 2 + (if b then 1 else 0)) 0 = v
  | 0, v, h => by
    have : v = 0 := by simpa using h
    subst this; rfl
  | n + 1, v, h => by
    have hv : v / 2 < 2 ^ n := Nat.div_lt_of_lt_mul (by rw [Nat.mul_comm, ← Nat.pow_succ]; exact h)
    -- the last bit is `v % 2`, the bits before it are those of `v / 2`
    have hs := toBits_split ⟨v, n + 1⟩ n 1 rfl
    rw [Nat.pow_one] at hs
    rw [hs, List.foldl_append, foldl_toBits n _ hv]
    show v / 2 * 2 + (if (v % 2).testBit 0 then 1 else 0) = v
    rw [Nat.testBit_zero, Nat.mod_mod]
    have := Nat.div_add_mod' v 2
    rcases Nat.mod_two_eq_zero_or_one v with h0 | h1
    · rw [h0] at this ⊢; exact this
    · rw [h1] at this ⊢; exact this

theorem ofBits_toBits (a : Bitset) (ha : a.WF) : ofBits a.toBits = a := by
  rw [ofBits_eq, foldl_toBits a.length a.value ha, toBits_length]

theorem eq_of_toBits_eq (a b : Bitset) (ha : a.WF) (hb : b.WF) (h : a.toBits = b.toBits) : a = b := by
  rw [← ofBits_toBits a ha, h, ofBits_toBits b hb]

theorem WF.concat {a b : Bitset} (ha : a.WF) (hb : b.WF) :
    (⟨a.value * 2 ^ b.length + b.value, a.length + b.length⟩ : Bitset).WF := by
  show _ < 2 ^ (a.length + b.length)
  rw [Nat.pow_add]
  calc _ < a.value * 2 ^ b.length + 2 ^ b.length := Nat.add_lt_add_left hb _
    _ = (a.value + 1) * 2 ^ b.length := by rw [Nat.add_mul]; omega
    _ ≤ _ := Nat.mul_le_mul_right _ ha

theorem concat_eq {a b : Bitset} (ha : a.WF) (hb : b.WF) :
    a.concat b = .ok ⟨a.value * 2 ^ b.length + b.value, a.length + b.length⟩ :=
  mk'_of_lt _ _ (ha.concat hb)

theorem WF.high {a : Bitset} (ha : a.WF) (k : Nat) (hk : k ≤ a.length) :
    (⟨a.value / 2 ^ (a.length - k), k⟩ : Bitset).WF := by
  apply Nat.div_lt_of_lt_mul
  rw [← Nat.pow_add, Nat.sub_add_cancel hk]; exact ha

/-- `ha` is needed: the constructor refuses a quotient that does not fit `k` bits.  A remainder modulo `2^k`
    always fits, so `getLowerBits_eq` has no such hypothesis. -/
theorem getHigherBits_eq {a : Bitset} (ha : a.WF) (k : Nat) (hk : k ≤ a.length) :
    a.getHigherBits k = .ok ⟨a.value / 2 ^ (a.length - k), k⟩ := by
  have h1 : ¬ ((k : Int) < 0) := by omega
  have h2 : ¬ ((k : Int) > (a.length : Int)) := by omega
  simp only [getHigherBits, h1, h2, ↓reduceIte, Int.toNat_natCast, shr]
  exact mk'_of_lt _ _ (ha.high k hk)

/-- the value `getLowerBits` computes, `(v << (n-k) & mask) >> (n-k)`, is `v mod 2^k` -/
theorem shl_shr_value (v n k : Nat) (hk : k ≤ n) : v * 2 ^ (n - k) % 2 ^ n / 2 ^ (n - k) = v % 2 ^ k := by
  have e : 2 ^ n = 2 ^ k * 2 ^ (n - k) := by rw [← Nat.pow_add]; congr 1; omega
  rw [e, Nat.mul_mod_mul_right, Nat.mul_div_cancel _ (Nat.pow_pos (by omega))]

theorem getLowerBits_eq (a : Bitset) (k : Nat) (hk : k ≤ a.length) :
    a.getLowerBits k = .ok ⟨a.value % 2 ^ k, k⟩ := by
  have h1 : ¬ ((k : Int) < 0) := by omega
  have h2 : ¬ ((k : Int) > (a.length : Int)) := by omega
  simp only [getLowerBits, h1, h2, ↓reduceIte, Int.toNat_natCast, shr, shl, shl_shr_value _ _ _ hk]
  exact mk'_of_lt _ _ (Nat.mod_lt _ (Nat.pow_pos (by omega)))

theorem halfNotPadding_spec {x : Bitset} (hx : x.WF) :
    x.halfNotPadding = .ok (⟨x.value / 2 ^ ((x.length + 1) / 2), x.length / 2⟩,
      ⟨x.value % 2 ^ ((x.length + 1) / 2), (x.length + 1) / 2⟩) ∧
    (⟨x.value / 2 ^ ((x.length + 1) / 2), x.length / 2⟩ : Bitset).WF ∧
    (⟨x.value % 2 ^ ((x.length + 1) / 2), (x.length + 1) / 2⟩ : Bitset).WF := by
  have hk : (x.length + 1) / 2 ≤ x.length := by omega
  have e : x.length - (x.length + 1) / 2 = x.length / 2 := by omega
  unfold halfNotPadding
  generalize (x.length + 1) / 2 = k at hk e ⊢
  have hh := getHigherBits_eq hx (x.length - k) (Nat.sub_le _ _)
  have hw := hx.high (x.length - k) (Nat.sub_le _ _)
  rw [Nat.sub_sub_self hk, e] at hh hw
  refine ⟨?_, hw, Nat.mod_lt _ (Nat.pow_pos (by decide))⟩
  simp only [e, getLowerBits_eq x _ hk, hh, ok_bind]

theorem toBytes_eq (a : Bitset) (ha : a.WF) : a.toBytes = .ok (toBE ((a.length + 7) / 8) a.value) := by
  -- a well-formed value fits `⌈length / 8⌉` bytes, so the overflow test of `toBytes` fails
  have hfit : a.value < 256 ^ ((a.length + 7) / 8) := lt_256_pow_of_lt_two_pow ha
  unfold Bitset.toBytes
  exact if_neg (Nat.not_le.mpr hfit)

theorem toBytes_inv {a : Bitset} {b : Bytes} (h : a.toBytes = .ok b) :
    intFromBytes b = a.value ∧ b.length = (a.length + 7) / 8 := by
  simp only [Bitset.toBytes] at h
  split at h
  · cases h
  · rename_i hw
    cases h
    exact ⟨(intFromBytes_eq _).trans (fromBE_toBE _ _ (Nat.lt_of_not_le hw)), toBE_length _ _⟩

theorem ofBytes_eq_ok {b : Bytes} {len : Nat} {m : Bitset} (hlen : len ≠ 0) :
    ofBytes b len = .ok m ↔ fromBE b < 2 ^ len ∧ m = ⟨fromBE b, len⟩ := by
  unfold ofBytes
  exact mk'_eq_ok hlen

theorem ofBytes_inv {b : Bytes} {len : Nat} {m : Bitset} (h : ofBytes b len = .ok m) :
    m.WF ∧ m.value = fromBE b ∧ (len ≠ 0 → m.length = len) := by
  unfold ofBytes at h
  exact mk'_inv h

/-- The width is stated as the callers have it: a byte count from the configuration (an `Int`) times 8, cast to
    `Nat`; the last conjunct undoes the cast. -/
theorem ofBytes_returns (b : Bytes) (z : Int) (hb : (b.length : Int) ≤ z) :
    ofBytes b (z * 8).toNat = .ok ⟨fromBE b, (z * 8).toNat⟩ ∧ fromBE b < 2 ^ (z * 8).toNat ∧
      ((z * 8).toNat : Int) = z * 8 := by
  have e : ((z * 8).toNat : Int) = z * 8 := Int.toNat_of_nonneg (by omega)
  generalize (z * 8).toNat = L at e ⊢
  have hlt : fromBE b < 2 ^ L := fromBE_lt_of_le (by omega)
  exact ⟨mk'_of_lt _ _ hlt, hlt, e⟩

end Bitset
end SSEPy
