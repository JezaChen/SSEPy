/-
  The persistent array.  File level: a padded read is a window of `byteAt`, a write changes exactly its
  own slot (`readIdx_writeIdx`).  Above that every operation is `exec` of a list of touches and writes
  (`Act`): `exec_sameParams` and `exec_spec` are the inductions for parameters, contents and files, each loop
  of the model is identified with its list once, and `step_spec` is the one walk over `step` that C19 reads.
-/
import SSEPyVerif.Model.PArray
import SSEPyVerif.Proofs.PySeq
import SSEPyVerif.Proofs.Basic
import SSEPyVerif.Proofs.List
namespace SSEPy.PArray

def byteAt (f : File) (p : Nat) : UInt8 := f.getD p 0

theorem padded_read (f : File) (o n : Nat) :
    readAt f o n ++ zeros (n - (readAt f o n).length) = (List.range n).map fun k => byteAt f (o + k) := by
  rw [readAt, zeros, take_append_replicate]
  apply List.map_congr_left
  intro k _
  simp only [byteAt, List.getD_eq_getElem?_getD, List.getElem?_drop]

theorem byteAt_writeAt (f : File) (o : Nat) (c : Bytes) (p : Nat) :
    byteAt (writeAt f o c) p =
      if p < o then byteAt f p else if p < o + c.length then c.getD (p - o) 0 else byteAt f p := by
  unfold writeAt
  -- `getElem?` through the three pieces of `writeAt`, then by where `p` lies
  simp only [byteAt, List.getD_eq_getElem?_getD, List.getElem?_append, List.length_append, List.length_take,
    zeros, List.length_replicate, List.getElem?_take, List.getElem?_drop, List.getElem?_replicate]
  have hmin : min o (f.length + (o - f.length)) = o := by omega
  rw [hmin]
  by_cases h1 : p < o
  · have h0 : p < o + c.length := by omega
    simp only [h1, h0, ↓reduceIte]
    by_cases hpf : p < f.length
    · simp [hpf]
    · have : p - f.length < o - f.length := by omega
      simp [hpf, this]
  · by_cases h2 : p < o + c.length
    · simp only [h1, h2, ↓reduceIte]
    · simp only [h1, h2, ↓reduceIte]
      congr 2; omega

theorem readIdx_eq (s : PArr) (i : Nat) :
    readIdx s i = (List.range s.sz).map fun k => byteAt (fileOf s (i / s.per)) (i % s.per * s.sz + k) := by
  unfold readIdx
  exact padded_read _ _ _

theorem readIdx_length (s : PArr) (i : Nat) : (readIdx s i).length = s.sz := by
  rw [readIdx_eq]; simp

theorem leftPad_full (sz : Nat) (b : Bytes) (h : b.length = sz) : leftPad sz b = b := by
  simp [leftPad, zeros, h]

theorem leftPad_zeros (n : Nat) : leftPad n (zeros n) = zeros n := leftPad_full n _ List.length_replicate

theorem fileOf_touch (s : PArr) (fid k : Nat) : fileOf (touch s fid) k = fileOf s k := by
  unfold fileOf touch
  by_cases h : k = fid
  · subst h; simp
  · simp [h]

theorem readIdx_touch (s : PArr) (fid i : Nat) : readIdx (touch s fid) i = readIdx s i := by
  rw [readIdx_eq, readIdx_eq]
  have h1 : (touch s fid).sz = s.sz := rfl
  have h2 : (touch s fid).per = s.per := rfl
  rw [h1, h2, fileOf_touch]

theorem window_writeAt_self (f : File) (o : Nat) (c : Bytes) (n : Nat) (hn : c.length = n) :
    (List.range n).map (fun k => byteAt (writeAt f o c) (o + k)) = c := by
  subst hn
  apply List.ext_getElem (by simp)
  intro k h1 h2
  rw [List.getElem_map, List.getElem_range, byteAt_writeAt, if_neg (by omega), if_pos (by omega),
    Nat.add_sub_cancel_left, List.getD_eq_getElem?_getD, List.getElem?_eq_getElem h2]
  rfl

theorem window_writeAt_disjoint (f : File) (o : Nat) (c : Bytes) (o' n : Nat)
    (h : o' + n ≤ o ∨ o + c.length ≤ o') :
    (List.range n).map (fun k => byteAt (writeAt f o c) (o' + k)) = (List.range n).map fun k => byteAt f (o' + k) := by
  apply List.map_congr_left
  intro k hk
  have hk := List.mem_range.mp hk
  rw [byteAt_writeAt]
  rcases h with h | h
  · rw [if_pos (by omega)]
  · rw [if_neg (by omega), if_neg (by omega)]

theorem slots_disjoint (a b sz : Nat) (hab : a ≠ b) : a * sz + sz ≤ b * sz ∨ b * sz + sz ≤ a * sz := by
  rcases Nat.lt_or_gt_of_ne hab with h | h
  · exact Or.inl (by rw [← Nat.succ_mul]; exact Nat.mul_le_mul_right _ h)
  · exact Or.inr (by rw [← Nat.succ_mul]; exact Nat.mul_le_mul_right _ h)

theorem readIdx_writeIdx (s : PArr) (i j : Nat) (b : Bytes) (hb : b.length ≤ s.sz) :
    readIdx (writeIdx s i b) j = if j = i then leftPad s.sz b else readIdx s j := by
  have hc : (leftPad s.sz b).length = s.sz := by simp [leftPad, zeros]; omega
  rw [readIdx_eq]
  show (List.range s.sz).map (fun k => byteAt (fileOf (writeIdx s i b) (j / s.per)) (j % s.per * s.sz + k)) = _
  by_cases hfile : j / s.per = i / s.per
  · have hf : fileOf (writeIdx s i b) (j / s.per)
        = writeAt (fileOf s (i / s.per)) (i % s.per * s.sz) (leftPad s.sz b) := by
      simp [fileOf, writeIdx, hfile, leftPad]
    rw [hf]
    by_cases hji : j = i
    · rw [if_pos hji, hji]
      exact window_writeAt_self _ _ _ _ hc
    · rw [if_neg hji, readIdx_eq, hfile]
      have hslot : j % s.per ≠ i % s.per := fun he => hji (by
        rw [← Nat.div_add_mod j s.per, ← Nat.div_add_mod i s.per, hfile, he])
      refine window_writeAt_disjoint _ _ _ _ _ ?_
      rw [hc]
      exact slots_disjoint _ _ _ hslot
  · have hji : j ≠ i := fun e => hfile (by rw [e])
    have hf : fileOf (writeIdx s i b) (j / s.per) = fileOf s (j / s.per) := by
      simp [fileOf, writeIdx, hfile]
    rw [if_neg hji, hf, readIdx_eq]

def upd (c : Nat → Bytes) (i : Nat) (v : Bytes) : Nat → Bytes := fun j => if j = i then v else c j

theorem upd_same (c : Nat → Bytes) (i : Nat) (v : Bytes) : upd c i v i = v := if_pos rfl

theorem upd_ne (c : Nat → Bytes) (v : Bytes) {i j : Nat} (h : j ≠ i) : upd c i v j = c j := if_neg h

def SameParams (a b : PArr) : Prop := a.sz = b.sz ∧ a.len = b.len ∧ a.per = b.per ∧ a.closed = b.closed

theorem SameParams.sz {a b : PArr} (h : SameParams a b) : a.sz = b.sz := h.1
theorem SameParams.len {a b : PArr} (h : SameParams a b) : a.len = b.len := h.2.1
theorem SameParams.per {a b : PArr} (h : SameParams a b) : a.per = b.per := h.2.2.1
theorem SameParams.closed {a b : PArr} (h : SameParams a b) : a.closed = b.closed := h.2.2.2

theorem SameParams.refl (a : PArr) : SameParams a a := ⟨rfl, rfl, rfl, rfl⟩
theorem SameParams.trans {a b c : PArr} (h1 : SameParams a b) (h2 : SameParams b c) : SameParams a c :=
  ⟨h1.sz.trans h2.sz, h1.len.trans h2.len, h1.per.trans h2.per, h1.closed.trans h2.closed⟩

theorem SameParams.touch (s : PArr) (f : Nat) : SameParams (touch s f) s := ⟨rfl, rfl, rfl, rfl⟩

theorem readIdx_writeIdx_touch (s : PArr) (f i : Nat) (b : Bytes) (hb : b.length ≤ s.sz) :
    readIdx (writeIdx (touch s f) i b) = upd (readIdx s) i (leftPad s.sz b) := by
  funext j
  rw [readIdx_writeIdx (touch s f) i j b hb]
  unfold upd
  simp only [readIdx_touch]
  rfl

theorem abs_items_length (s : PArr) : (abs s).items.length = s.len := by simp [abs]

theorem abs_congr (a b : PArr) (hp : SameParams a b) (hc : ∀ j, j < b.len → readIdx a j = readIdx b j) : abs a = abs b := by
  unfold abs
  rw [hp.sz, hp.len, hp.closed]
  congr 1
  apply List.map_congr_left
  intro j hj
  exact hc j (by simpa using hj)

theorem abs_touch (s : PArr) (f : Nat) : abs (touch s f) = abs s :=
  abs_congr _ _ (.touch s f) (fun j _ => readIdx_touch s f j)

theorem getD_abs (s : PArr) (k : Nat) (hk : k < s.len) : (abs s).items.getD k [] = readIdx s k := by
  simp [abs, List.getD_eq_getElem?_getD, hk]

theorem map_upd (c : Nat → Bytes) (k : Nat) (v : Bytes) (n : Nat) :
    (List.range n).map (upd c k v) = ((List.range n).map c).set k v := by
  apply List.ext_getElem
  · simp
  · intro j h1 h2
    simp only [List.length_map, List.length_range] at h1
    simp only [List.getElem_map, List.getElem_range, List.getElem_set, upd]
    by_cases hjk : k = j
    · subst hjk; simp
    · have : ¬ j = k := fun h => hjk h.symm
      simp [hjk, this]

theorem abs_writeIdx_touch (s : PArr) (f k : Nat) (b : Bytes) (hb : b.length ≤ s.sz) :
    abs (writeIdx (touch s f) k b) = { abs s with items := (abs s).items.set k (leftPad s.sz b) } := by
  unfold abs
  simp only [readIdx_writeIdx_touch s f k b hb, map_upd]
  rfl

/-- every existing chunk file has an id below `ceil(array_len / item_num_in_one_file)` -/
def FilesOk (s : PArr) : Prop := ∀ fid, (s.files fid).isSome → fid < fileNum s

theorem div_lt_fileNum (s : PArr) (hper : 0 < s.per) (k : Nat) (hk : k < s.len) : k / s.per < fileNum s :=
  (Nat.div_lt_iff_lt_mul hper).mpr (Nat.lt_of_lt_of_le hk (le_ceilDiv_mul _ _ hper))

theorem filesOk_of_same {a b : PArr} (hp : SameParams a b) : fileNum a = fileNum b := by
  unfold fileNum; rw [hp.len, hp.per]

/-- What an operation does to the chunk files: it opens the chunk of a position, or opens it and writes
    an item there. -/
inductive Act where
  | touch (k : Nat)
  | write (k : Nat) (b : Bytes)

def Act.pos : Act → Nat
  | .touch k => k
  | .write k _ => k

def Act.size : Act → Nat
  | .touch _ => 0
  | .write _ b => b.length

def act (s : PArr) : Act → PArr
  | .touch k => touch s (k / s.per)
  | .write k b => writeIdx (touch s (k / s.per)) k b

def exec (s : PArr) (as : List Act) : PArr := as.foldl act s

theorem exec_cons (s : PArr) (a : Act) (as : List Act) : exec s (a :: as) = exec (act s a) as := rfl

/-- what `act s a` reads back as, given what `s` read as (`act_spec`) -/
def updAct (sz : Nat) (c : Nat → Bytes) : Act → Nat → Bytes
  | .touch _ => c
  | .write k b => upd c k (leftPad sz b)

/-- the same on the list of items (`map_foldl_updAct`) -/
def specAct (sz : Nat) (l : List Bytes) : Act → List Bytes
  | .touch _ => l
  | .write k b => l.set k (leftPad sz b)

theorem act_sameParams (s : PArr) (a : Act) : SameParams (act s a) s := by
  cases a with
  | touch k => exact .touch _ _
  | write k b => exact ⟨rfl, rfl, rfl, rfl⟩

theorem filesOk_act (s : PArr) (a : Act) (hper : 0 < s.per) (ha : a.pos < s.len) (h : FilesOk s) :
    FilesOk (act s a) := by
  intro fid hf
  have hn : fileNum (act s a) = fileNum s := filesOk_of_same (act_sameParams s a)
  rw [hn]
  by_cases he : fid = a.pos / s.per
  · rw [he]; exact div_lt_fileNum s hper _ ha
  · apply h fid
    cases a with
    -- `touch` and `writeIdx` replace the file `a.pos / s.per` and no other
    | touch k =>
      have hfid : (touch s (k / s.per)).files fid = s.files fid := if_neg he
      rwa [act, hfid] at hf
    | write k b =>
      have hfid : (writeIdx (touch s (k / s.per)) k b).files fid = s.files fid := (if_neg he).trans (if_neg he)
      rwa [act, hfid] at hf

theorem exec_sameParams (s : PArr) (as : List Act) : SameParams (exec s as) s := by
  induction as generalizing s with
  | nil => exact .refl s
  | cons a as ih => exact (ih (act s a)).trans (act_sameParams s a)

theorem act_spec (s : PArr) (a : Act) (hsz : a.size ≤ s.sz) : readIdx (act s a) = updAct s.sz (readIdx s) a := by
  cases a with
  | touch k => exact funext fun j => readIdx_touch _ _ _
  | write k b => exact readIdx_writeIdx_touch s _ k b hsz

theorem exec_spec (s : PArr) (as : List Act) (hs : ∀ a ∈ as, a.size ≤ s.sz) :
    readIdx (exec s as) = as.foldl (updAct s.sz) (readIdx s) ∧
    (0 < s.per → (∀ a ∈ as, a.pos < s.len) → FilesOk s → FilesOk (exec s as)) := by
  induction as generalizing s with
  | nil => exact ⟨rfl, fun _ _ h => h⟩
  | cons a as ih =>
    obtain ⟨ha, has⟩ := List.forall_mem_cons.mp hs
    have hp := act_sameParams s a
    obtain ⟨hi', hf'⟩ := ih (act s a) (fun x hx => by rw [hp.sz]; exact has x hx)
    refine ⟨?_, fun hper hpos h => ?_⟩
    · rw [exec_cons, hi', act_spec s a ha, hp.sz]; rfl
    · obtain ⟨hpa, hpas⟩ := List.forall_mem_cons.mp hpos
      exact hf' (by rw [hp.per]; exact hper) (fun x hx => by rw [hp.len]; exact hpas x hx)
        (filesOk_act s a hper hpa h)

theorem map_foldl_updAct (sz n : Nat) (as : List Act) : ∀ (c : Nat → Bytes),
    (List.range n).map (as.foldl (updAct sz) c) = as.foldl (specAct sz) ((List.range n).map c) := by
  induction as with
  | nil => intro c; rfl
  | cons a as ih =>
    intro c
    rw [List.foldl_cons, List.foldl_cons, ih]
    cases a with
    | touch k => rfl
    | write k b => rw [updAct, specAct, map_upd]

theorem abs_exec (s : PArr) (as : List Act) (hs : ∀ a ∈ as, a.size ≤ s.sz) :
    abs (exec s as) = { abs s with items := as.foldl (specAct s.sz) (abs s).items } := by
  have hp := exec_sameParams s as
  rw [abs, hp.sz, hp.len, hp.closed, (exec_spec s as hs).1, map_foldl_updAct]
  rfl

theorem foldl_updAct_of_not_written (sz : Nat) (j : Nat) : ∀ (as : List Act) (c : Nat → Bytes),
    (∀ a ∈ as, ∀ b, a ≠ .write j b) → as.foldl (updAct sz) c j = c j := by
  intro as
  induction as with
  | nil => intro c _; rfl
  | cons a as ih =>
    intro c h
    obtain ⟨ha, has⟩ := List.forall_mem_cons.mp h
    rw [List.foldl_cons, ih _ has]
    cases a with
    | touch k => rfl
    | write k b => exact upd_ne _ _ fun e => ha b (by rw [e])

theorem foldl_touch_eq_exec (s : PArr) (idx : List Nat) :
    idx.foldl (fun st i => touch st (i / st.per)) s = exec s (idx.map .touch) := by
  rw [exec, List.foldl_map]; rfl

theorem zeroRange_eq_exec (s : PArr) (idx : List Nat) :
    zeroRange s idx = exec s (idx.map fun k => .write k (zeros s.sz)) := by
  induction idx generalizing s with
  | nil => rfl
  | cons i is ih =>
    -- the body of the loop is `act` on a write, by definition; `act` keeps `sz`, so the zeros written by the
    -- rest of the loop are those of the list
    rw [zeroRange, List.foldl_cons, List.map_cons, exec_cons]
    exact ih (act s (.write i (zeros s.sz)))

theorem exec_touch (s : PArr) (idx : List Nat) :
    readIdx (exec s (idx.map .touch)) = readIdx s ∧ abs (exec s (idx.map .touch)) = abs s ∧
    (0 < s.per → (∀ k ∈ idx, k < s.len) → FilesOk s → FilesOk (exec s (idx.map .touch))) := by
  obtain ⟨hr, hf⟩ := exec_spec s (idx.map .touch) (List.forall_mem_map.mpr fun _ _ => Nat.zero_le _)
  have hp := exec_sameParams s (idx.map .touch)
  have hr' : readIdx (exec s (idx.map .touch)) = readIdx s := by
    funext j
    rw [hr]
    exact foldl_updAct_of_not_written s.sz j _ _ (List.forall_mem_map.mpr fun _ _ _ => nofun)
  exact ⟨hr', abs_congr _ _ hp (fun j _ => by rw [hr']), fun hper hb => hf hper (List.forall_mem_map.mpr hb)⟩

theorem zeroRange_spec (s : PArr) (idx : List Nat) :
    (zeroRange s idx).per = s.per ∧
    abs (zeroRange s idx) = { abs s with items := idx.foldl (fun l k => l.set k (zeros s.sz)) (abs s).items } ∧
    (0 < s.per → (∀ k ∈ idx, k < s.len) → FilesOk s → FilesOk (zeroRange s idx)) := by
  have hsz : ∀ a ∈ idx.map (fun k => Act.write k (zeros s.sz)), a.size ≤ s.sz :=
    List.forall_mem_map.mpr fun _ _ => Nat.le_of_eq List.length_replicate
  rw [zeroRange_eq_exec]
  refine ⟨(exec_sameParams _ _).per, ?_, fun hper hb => (exec_spec s _ hsz).2 hper (List.forall_mem_map.mpr hb)⟩
  rw [abs_exec s _ hsz, List.foldl_map]
  simp only [specAct, leftPad_zeros]

theorem step_go_spec (v : Bytes) (s : PArr) (idx : List Nat) :
    (∃ n, (step.go v s idx).1 = exec s ((idx.take n).map .touch)) ∧
    (step.go v s idx).2 = idx.any (fun i => readIdx s i == v) := by
  induction idx generalizing s with
  | nil => exact ⟨⟨0, rfl⟩, rfl⟩
  | cons i is ih =>
    have ht : readIdx (touch s (i / s.per)) = readIdx s := funext fun j => readIdx_touch _ _ _
    simp only [step.go, List.any_cons, ht]
    split
    · rename_i hv
      exact ⟨⟨1, rfl⟩, by rw [hv]; rfl⟩
    · rename_i hv
      obtain ⟨⟨n, hn⟩, hr⟩ := ih (touch s (i / s.per))
      rw [ht] at hr
      exact ⟨⟨n + 1, hn⟩, by rw [hr, Bool.not_eq_true _ |>.mp hv]; rfl⟩

/-- The actions of a slice assignment: every visited position is opened; it is written unless the values have
    run out or the value is refused, which ends the loop.  `planErr` is how it ends. -/
def plan (sz : Nat) : List Nat → List Item → List Act
  | [], _ => []
  | i :: _, [] => [.touch i]
  | i :: is, v :: vs =>
    match v with
    | .nonBytes => [.touch i]
    | .bytes b => if b.length > sz then [.touch i] else .write i b :: plan sz is vs

def planErr (sz : Nat) : List Nat → List Item → Option Err
  | [], _ => none
  | _ :: _, [] => none
  | _ :: is, v :: vs =>
    match v with
    | .nonBytes => some .typeError
    | .bytes b => if b.length > sz then some .valueError else planErr sz is vs

/-- the positions whose old item is saved for a rollback: those that met a value -/
def saved (sz : Nat) : List Nat → List Item → List Nat
  | [], _ => []
  | _ :: _, [] => []
  | i :: is, v :: vs =>
    match v with
    | .nonBytes => [i]
    | .bytes b => if b.length > sz then [i] else i :: saved sz is vs

theorem saved_prefix (sz : Nat) : ∀ (rem : List Nat) (vs : List Item), ∃ rest, rem = saved sz rem vs ++ rest := by
  intro rem
  induction rem with
  | nil => intro vs; exact ⟨[], rfl⟩
  | cons i is ih =>
    intro vs
    cases vs with
    | nil => exact ⟨i :: is, rfl⟩
    | cons v vs =>
      cases v with
      | nonBytes => exact ⟨is, rfl⟩
      | bytes b =>
        simp only [saved]
        split
        · exact ⟨is, rfl⟩
        · obtain ⟨rest, h⟩ := ih vs
          exact ⟨rest, by rw [List.cons_append, ← h]⟩

theorem setSliceLoop_eq (s : PArr) (rem : List Nat) (vs : List Item) (olds : List (Nat × Bytes)) (hnd : rem.Nodup) :
    setSliceLoop s rem vs olds =
      (exec s (plan s.sz rem vs), ((saved s.sz rem vs).map fun i => (i, readIdx s i)).reverse ++ olds,
        planErr s.sz rem vs) := by
  induction rem generalizing s vs olds with
  | nil => rfl
  | cons i is ih =>
    have ht : readIdx (touch s (i / s.per)) i = readIdx s i := readIdx_touch _ _ _
    cases vs with
    | nil => rfl
    | cons v vs =>
      cases v with
      | nonBytes => simp only [setSliceLoop, plan, saved, planErr, ht]; rfl
      | bytes b =>
        simp only [setSliceLoop, plan, saved, planErr]
        split
        · simp only [ht]; rfl
        · rename_i hb
          obtain ⟨hi, hnd'⟩ := List.nodup_cons.mp hnd
          rw [ih _ vs _ hnd', ht]
          -- the positions saved later are not `i`, so they read the same after the write
          have hsame : ∀ j ∈ saved s.sz is vs,
              readIdx (writeIdx (touch s (i / s.per)) i b) j = readIdx s j := by
            intro j hj
            obtain ⟨rest, hr⟩ := saved_prefix s.sz is vs
            have hji : j ≠ i := fun e => hi (by rw [hr, ← e]; exact List.mem_append_left _ hj)
            rw [readIdx_writeIdx_touch s _ i b (Nat.le_of_not_gt hb), upd_ne _ _ hji]
          simp only [exec_cons, List.map_cons, List.reverse_cons, List.append_assoc,
            List.singleton_append, Prod.mk.injEq, List.append_cancel_right_eq, List.reverse_inj]
          exact ⟨rfl, List.map_congr_left fun j hj => by rw [hsame j hj], rfl⟩

theorem plan_spec (sz : Nat) : ∀ (rem : List Nat) (vs : List Item),
    (∀ a ∈ plan sz rem vs, a.size ≤ sz) ∧ (∀ a ∈ plan sz rem vs, a.pos ∈ rem) ∧
    (∀ a ∈ plan sz rem vs, ∀ k b, a = .write k b → k ∈ saved sz rem vs) := by
  intro rem
  induction rem with
  | nil => intro vs; exact ⟨fun _ h => (nomatch h), fun _ h => (nomatch h), fun _ h => (nomatch h)⟩
  | cons i is ih =>
    intro vs
    have ht : ∀ V : List Nat,
        (∀ a ∈ [Act.touch i], a.size ≤ sz) ∧ (∀ a ∈ [Act.touch i], a.pos ∈ i :: is) ∧
        (∀ a ∈ [Act.touch i], ∀ k b, a = .write k b → k ∈ V) := fun V =>
      ⟨fun a ha => by rw [List.mem_singleton.mp ha]; exact Nat.zero_le _,
       fun a ha => by rw [List.mem_singleton.mp ha]; exact List.mem_cons_self,
       fun a ha k b e => by rw [List.mem_singleton.mp ha] at e; cases e⟩
    cases vs with
    | nil => exact ht _
    | cons v vs =>
      cases v with
      | nonBytes => exact ht _
      | bytes b =>
        simp only [plan, saved]
        split
        · exact ht _
        · rename_i hb
          obtain ⟨hsize, hpos, hwr⟩ := ih vs
          -- the plan is `.write i b :: plan sz is vs`: each claim is checked at the head and lifted on the tail
          refine ⟨List.forall_mem_cons.mpr ⟨?_, hsize⟩, List.forall_mem_cons.mpr ⟨?_, ?_⟩,
            List.forall_mem_cons.mpr ⟨?_, ?_⟩⟩
          · exact Nat.le_of_not_gt hb
          · exact List.mem_cons_self
          · exact fun a ha => List.mem_cons_of_mem _ (hpos a ha)
          · intro k b' e
            cases e
            exact List.mem_cons_self
          · exact fun a ha k b' e => List.mem_cons_of_mem _ (hwr a ha k b' e)

theorem filesOk_setSliceLoop (s : PArr) (rem : List Nat) (vs : List Item) (olds : List (Nat × Bytes))
    (hnd : rem.Nodup) (hper : 0 < s.per) (h : FilesOk s) (hb : ∀ k ∈ rem, k < s.len) :
    FilesOk (setSliceLoop s rem vs olds).1 := by
  rw [setSliceLoop_eq s rem vs olds hnd]
  obtain ⟨hsize, hpos, _⟩ := plan_spec s.sz rem vs
  obtain ⟨_, hfiles⟩ := exec_spec s (plan s.sz rem vs) hsize
  have hlt : ∀ a ∈ plan s.sz rem vs, a.pos < s.len := fun a ha => hb a.pos (hpos a ha)
  exact hfiles hper hlt h

theorem assignAll_eq_plan (sz : Nat) : ∀ (rem : List Nat) (vs : List Item) (items : List Bytes),
    assignAll sz items rem vs =
      match planErr sz rem vs with
      | none => .ok ((plan sz rem vs).foldl (specAct sz) items)
      | some e => .error e := by
  intro rem
  induction rem with
  | nil => intro vs items; rfl
  | cons i is ih =>
    intro vs items
    cases vs with
    | nil => rfl
    | cons v vs =>
      cases v with
      | nonBytes => rfl
      | bytes b =>
        simp only [assignAll, planErr, plan]
        split
        · rfl
        · rw [ih]; rfl

/-- the plan of a rollback; `T` is in fact at most one action -/
theorem plan_saved (sz : Nat) (g : Nat → Bytes) (hg : ∀ i, (g i).length ≤ sz) (rest : List Nat) : ∀ (V : List Nat),
    ∃ T, plan sz (V ++ rest) (V.map fun i => .bytes (g i)) = V.map (fun i => .write i (g i)) ++ T ∧
      ∀ a ∈ T, ∃ k, a = .touch k := by
  intro V
  induction V with
  | nil =>
    cases rest with
    | nil => exact ⟨[], rfl, fun _ h => (nomatch h)⟩
    | cons x _ => exact ⟨[.touch x], rfl, fun a ha => ⟨x, List.mem_singleton.mp ha⟩⟩
  | cons i V ih =>
    obtain ⟨T, hT, hT'⟩ := ih
    exact ⟨T, by simp only [List.cons_append, List.map_cons, plan, if_neg (Nat.not_lt.mpr (hg i)), hT], hT'⟩

/-- writing `c0` (padded: `hc0`) back at `V`, then touches `T`, restores `c0` from a `c` that differs only in `V` -/
theorem foldl_updAct_restore (sz : Nat) (c0 : Nat → Bytes) (hc0 : ∀ i, leftPad sz (c0 i) = c0 i) (T : List Act)
    (hT : ∀ a ∈ T, ∃ k, a = .touch k) : ∀ (V : List Nat) (c : Nat → Bytes), (∀ j, j ∉ V → c j = c0 j) →
      (V.map (fun i => Act.write i (c0 i)) ++ T).foldl (updAct sz) c = c0
  | [], c, h => by
    funext j
    have hnw : ∀ a ∈ T, ∀ b, a ≠ .write j b := fun a ha b e => by
      obtain ⟨k, rfl⟩ := hT a ha
      cases e
    rw [List.map_nil, List.nil_append, foldl_updAct_of_not_written sz j T c hnw]
    exact h j List.not_mem_nil
  | i :: V, c, h => by
    rw [List.map_cons, List.cons_append, List.foldl_cons]
    refine foldl_updAct_restore sz c0 hc0 T hT V _ fun j hj => ?_
    by_cases e : j = i
    · rw [e, updAct, upd_same, hc0]
    · rw [updAct, upd_ne _ _ e]
      exact h j fun hm => (List.mem_cons.mp hm).elim e hj

theorem rollback_restores (s : PArr) (idx : List Nat) (vs : List Item) (hnd : idx.Nodup) :
    let r := setSliceLoop s idx vs []
    SameParams (rollback r.1 idx r.2.1) s ∧ readIdx (rollback r.1 idx r.2.1) = readIdx s := by
  have hp := exec_sameParams s (plan s.sz idx vs)
  obtain ⟨hsize, _, hw⟩ := plan_spec s.sz idx vs
  obtain ⟨hr, _⟩ := exec_spec s (plan s.sz idx vs) hsize
  -- both loops in closed form, the failed one and then the rollback's own; this eliminates `r`
  simp only [setSliceLoop_eq s idx vs [] hnd, rollback, List.append_nil, List.reverse_reverse, List.map_map,
    setSliceLoop_eq _ idx _ [] hnd, hp.sz]
  obtain ⟨rest, hrest⟩ := saved_prefix s.sz idx vs
  -- with `saved` and `plan` of the failed loop as variables, `plan_saved` rewrites the plan of the rollback:
  -- it writes what `s` read as at every saved position, and the failed loop wrote only there
  generalize saved s.sz idx vs = V at hrest hw
  generalize plan s.sz idx vs = P at hp hr hw
  rw [show (fun p : Nat × Bytes => Item.bytes p.2) ∘ (fun i => (i, readIdx s i)) = fun i => .bytes (readIdx s i)
    from rfl]
  obtain ⟨hsz, _, _⟩ := plan_spec s.sz idx (V.map fun i => .bytes (readIdx s i))
  obtain ⟨T, hplan, hT⟩ := plan_saved s.sz (readIdx s) (fun i => Nat.le_of_eq (readIdx_length s i)) rest V
  rw [← hrest] at hplan
  rw [hplan] at hsz ⊢
  have hp2 := exec_sameParams (exec s P) (V.map (fun i => Act.write i (readIdx s i)) ++ T)
  have hsz' : ∀ a ∈ V.map (fun i => Act.write i (readIdx s i)) ++ T, a.size ≤ (exec s P).sz := by
    rw [hp.sz]
    exact hsz
  obtain ⟨hr2, _⟩ := exec_spec (exec s P) _ hsz'
  refine ⟨hp2.trans hp, ?_⟩
  rw [hr2, hr, hp.sz]
  have hfull : ∀ i, leftPad s.sz (readIdx s i) = readIdx s i := fun i => leftPad_full _ _ (readIdx_length s i)
  have hout : ∀ j, j ∉ V → P.foldl (updAct s.sz) (readIdx s) j = readIdx s j := fun j hj =>
    foldl_updAct_of_not_written s.sz j P _ fun a ha b e => hj (hw a ha j b e)
  exact foldl_updAct_restore s.sz (readIdx s) hfull T hT V _ hout

theorem normIdx_lt {len : Nat} {i : Int} {k : Nat} (h : normIdx len i = some k) : k < len := by
  unfold normIdx at h
  split at h
  · cases h
  · rename_i hn
    simp only [Option.some.injEq] at h
    have hl : 0 < (len : Int) := by omega
    have h1 := Int.emod_nonneg i (Int.ne_of_gt hl)
    have h2 := Int.emod_lt_of_pos i hl
    omega

theorem natIdx_sliceRange {a b c : Option Int} {len : Nat} {idx : List Int}
    (h : sliceRange a b c len = .ok idx) : (∀ k ∈ natIdx idx, k < len) ∧ (natIdx idx).Nodup := by
  have hb := sliceRange_bounds h
  have hn := sliceRange_nodup h
  constructor
  · intro k hk
    simp only [natIdx, List.mem_map] at hk
    obtain ⟨p, hp, rfl⟩ := hk
    have := hb p hp
    omega
  · unfold natIdx
    unfold List.Nodup at hn ⊢
    rw [List.pairwise_map]
    apply List.Pairwise.imp_of_mem _ hn
    intro x y hx hy hxy heq
    have := hb x hx; have := hb y hy
    apply hxy; omega

theorem step_spec (s : PArr) (op : Op) :
    (step s op).2 = (specStep (abs s) op).2 ∧ abs (step s op).1 = (specStep (abs s) op).1 ∧
    (step s op).1.per = s.per ∧ (0 < s.per → FilesOk s → FilesOk (step s op).1) := by
  have hlen := abs_items_length s
  by_cases hc : s.closed = true
  · have hc' : (abs s).closed = true := hc
    unfold step specStep
    simp only [hc, hc', ↓reduceIte]
    cases op <;> exact ⟨rfl, rfl, rfl, fun _ h => h⟩
  · have hc' : ¬ (abs s).closed = true := hc
    unfold step specStep
    rw [if_neg hc, if_neg hc']
    simp only [hlen]
    -- a bare `simp only` reduces the `match` on the constructor just introduced; it may leave `True`: hence `trivial`
    cases op with
    | get i =>
      simp only
      cases hn : normIdx s.len i with
      | none => exact ⟨rfl, rfl, rfl, fun _ h => h⟩
      | some k =>
        simp only
        have hk := normIdx_lt hn
        refine ⟨?_, abs_touch _ _, rfl, fun hper h => filesOk_act s (.touch k) hper hk h⟩
        rw [readIdx_touch, getD_abs s k hk]
    | getSlice a b c =>
      simp only
      cases hs : sliceRange a b c s.len with
      | error e => exact ⟨rfl, rfl, rfl, fun _ h => h⟩
      | ok idx =>
        simp only
        obtain ⟨hb, _⟩ := natIdx_sliceRange hs
        rw [foldl_touch_eq_exec]
        obtain ⟨hr, ha, hf⟩ := exec_touch s (natIdx idx)
        refine ⟨?_, ha, (exec_sameParams _ _).per, fun hper h => hf hper hb h⟩
        congr 1
        apply List.map_congr_left
        intro k hk
        rw [hr, getD_abs s k (hb k hk)]
    | set i v =>
      simp only
      cases hn : normIdx s.len i with
      | none => exact ⟨rfl, rfl, rfl, fun _ h => h⟩
      | some k =>
        simp only
        cases v with
        | nonBytes => exact ⟨rfl, rfl, rfl, fun _ h => h⟩
        | bytes b =>
          simp only
          rw [show (abs s).sz = s.sz from rfl]
          by_cases hb : b.length > s.sz
          · simp only [hb, ↓reduceIte]; exact ⟨trivial, trivial, trivial, fun _ h => h⟩
          · simp only [hb, ↓reduceIte]
            exact ⟨trivial, abs_writeIdx_touch s _ k b (by omega), rfl,
              fun hper h => filesOk_act s (.write k b) hper (normIdx_lt hn) h⟩
    | setSlice a b c vs =>
      simp only
      cases hs : sliceRange a b c s.len with
      | error e => exact ⟨rfl, rfl, rfl, fun _ h => h⟩
      | ok idx =>
        simp only
        obtain ⟨hb, hnd⟩ := natIdx_sliceRange hs
        have hroll := rollback_restores s (natIdx idx) vs hnd
        obtain ⟨hsize, _, _⟩ := plan_spec s.sz (natIdx idx) vs
        have hp := exec_sameParams s (plan s.sz (natIdx idx) vs)
        have hf : 0 < s.per → FilesOk s → FilesOk (setSliceLoop s (natIdx idx) vs []).1 := fun hper h =>
          filesOk_setSliceLoop s _ vs [] hnd hper h hb
        simp only [setSliceLoop_eq s _ vs [] hnd] at hroll hf ⊢
        rw [show (abs s).sz = s.sz from rfl, assignAll_eq_plan]
        cases planErr s.sz (natIdx idx) vs with
        | none => exact ⟨rfl, abs_exec s _ hsize, hp.per, hf⟩
        | some e =>
          -- the loop failed with the same error; the rollback restores every item, and is by definition
          -- the state of a second `setSliceLoop`
          refine ⟨rfl, abs_congr _ _ hroll.1 (fun j _ => by rw [hroll.2]), hroll.1.per, fun hper h => ?_⟩
          have hper' : 0 < (exec s (plan s.sz (natIdx idx) vs)).per := by rw [hp.per]; exact hper
          have hb' : ∀ k ∈ natIdx idx, k < (exec s (plan s.sz (natIdx idx) vs)).len := fun k hk => by
            rw [hp.len]; exact hb k hk
          exact filesOk_setSliceLoop _ (natIdx idx) _ [] hnd hper' (hf hper h) hb'
    | del i =>
      simp only
      cases hn : normIdx s.len i with
      | none => exact ⟨rfl, rfl, rfl, fun _ h => h⟩
      | some k =>
        simp only
        refine ⟨trivial, ?_, rfl, fun hper h => filesOk_act s (.write k _) hper (normIdx_lt hn) h⟩
        rw [abs_writeIdx_touch s _ k (zeros s.sz) (Nat.le_of_eq List.length_replicate), leftPad_zeros]
        rfl
    | delSlice a b c =>
      simp only
      cases hs : sliceRange a b c s.len with
      | error e => exact ⟨rfl, rfl, rfl, fun _ h => h⟩
      | ok idx =>
        simp only
        obtain ⟨hp, ha, hf⟩ := zeroRange_spec s (natIdx idx)
        exact ⟨trivial, ha, hp, fun hper h => hf hper (natIdx_sliceRange hs).1 h⟩
    | clear =>
      simp only
      obtain ⟨hp, ha, hf⟩ := zeroRange_spec s (List.range s.len)
      refine ⟨trivial, ?_, hp, fun hper h => hf hper (fun k hk => List.mem_range.mp hk) h⟩
      rw [ha, ← hlen, foldl_set_all]
      rfl
    | iter =>
      simp only
      rw [foldl_touch_eq_exec]
      obtain ⟨hr, ha, hf⟩ := exec_touch s (List.range s.len)
      refine ⟨?_, ha, (exec_sameParams _ _).per, fun hper h => hf hper (fun k hk => List.mem_range.mp hk) h⟩
      rw [hr]; rfl
    | contains v =>
      simp only
      obtain ⟨⟨n, h1⟩, h3⟩ := step_go_spec v s (List.range s.len)
      obtain ⟨_, ha, hf⟩ := exec_touch s ((List.range s.len).take n)
      generalize step.go v s (List.range s.len) = r at h1 h3
      obtain ⟨s1, res⟩ := r
      simp only at h1 h3
      subst h1
      refine ⟨?_, ha, (exec_sameParams _ _).per, fun hper h =>
        hf hper (fun k hk => List.mem_range.mp (List.mem_of_mem_take hk)) h⟩
      simp only [h3, abs, List.contains_eq_any_beq, List.any_map, Out.bool.injEq]
      congr 1
      funext i
      -- the model tests `readIdx s i == v`, the list's `contains` tests `v == item`
      simp [Function.comp, BEq.comm]
    | len => exact ⟨rfl, rfl, rfl, fun _ h => h⟩
    | close => exact ⟨rfl, rfl, rfl, fun _ h => h⟩

end SSEPy.PArray
