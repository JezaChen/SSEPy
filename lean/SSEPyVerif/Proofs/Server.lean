/-
  The server program as the translator extracted it (`expectedProgram`, by `serverProgram_eq`) refines the three-state
  reference machine, for consecutive connections on one service id: `Shape` lists the disks that occur with the state each
  denotes, `absS` is the abstraction, `Move` the machine's transitions as a relation.  At the end, what the handlers leave
  on disk when the process dies part-way (C13).
-/
import SSEPyVerif.Model.ServerIR
import SSEPyVerif.Generated.ServerIR
namespace SSEPy.ServerIR

def expectedProgram : Program := {
  handleConfig := [.guardRefuse .ne 0 "config", .loadsConfig, .mkdirSid, .writeConfig, .setMemConfig,
    .setState 1, .writeMeta, .sendOk "config"],
  handleUpload := [.guardRefuse .eq 0 "upload_edb", .guardRefuse .eq 2 "upload_edb", .writeEdb, .setState 2,
    .writeMeta, .sendOk "upload_edb"],
  handleSearch := [.guardRefuse .eq 0 "result", .guardRefuse .eq 1 "result", .loadScheme, .loadEdb, .getDigest,
    .deserToken, .doSearch, .sendResult],
  dispatch := [("config", "handle_upload_config"), ("upload_edb", "handle_upload_encrypted_database"),
    ("token", "handle_search_token")],
  ctor := [.ifDirExists [.readConfig, .readMeta, .loadModule, .loadConfigObject] [.initMeta 0], .buildDispatch,
    .ifStateEq 2 [.loadModule], .sendInitEcho],
  recvLoopIsStandard := true,
  closeService := [.writeMeta],
  fmCreateSidFolder := [.mkdirExistOk],
  fmWriteConfig := [.returnIfNoDir, .openTmp "config.json", .writeTmp "config.json", .replace "config.json"],
  fmWriteMeta := [.returnIfNoDir, .openTmp "service_meta", .writeTmp "service_meta", .replace "service_meta"],
  fmWriteEdb := [.returnIfNoDir, .openTmp "edb", .writeTmp "edb", .replace "edb"],
  fmReadConfig := [.readFile "config.json"],
  fmReadMeta := [.readFile "service_meta"],
  fmReadEdb := [.readFile "edb"],
  fmCheckDir := [.retAllExist ["config.json", "service_meta"]],
  mgrCreate := [.construct, .enqueue, .locked [.waitTurn, .dequeue, .refresh, .register], .spawnCleanup,
    .serve, .awaitCleanup],
  mgrCleanup := [.awaitClosed, .locked [.sleep, .closeService, .delEntry, .notifyAll]],
  mgrLockIsCondition := true }

abbrev P := expectedProgram

theorem serverProgram_eq : SSEPy.Generated.serverProgram = expectedProgram := rfl

/-- the disks that occur, with the reference state they denote.  The `z…` are the folders an interrupted configuration
    upload leaves behind: the folder exists, `config.json` may or may not have been renamed into place, and
    `service_meta` is missing or says 0 (written back by a later connection's cleanup); they denote "not configured". -/
inductive Shape : Disk → Nat → Option Cfg → Option Edb → Prop where
  | fresh : Shape {} 0 none none
  | z00 : Shape { dir := true, config := .absent, metaSt := .absent, edb := .absent } 0 none none
  | z01 : Shape { dir := true, config := .absent, metaSt := .full 0, edb := .absent } 0 none none
  | z10 (v : Cfg) : Shape { dir := true, config := .full v, metaSt := .absent, edb := .absent } 0 none none
  | z11 (v : Cfg) : Shape { dir := true, config := .full v, metaSt := .full 0, edb := .absent } 0 none none
  | configured (cfg : Cfg) :
      Shape { dir := true, config := .full cfg, metaSt := .full 1, edb := .absent } 1 (some cfg) none
  | configuredE (cfg : Cfg) (e : Edb) :   -- an index file was renamed into place but never acknowledged
      Shape { dir := true, config := .full cfg, metaSt := .full 1, edb := .full e } 1 (some cfg) none
  | ready (cfg : Cfg) (e : Edb) :
      Shape { dir := true, config := .full cfg, metaSt := .full 2, edb := .full e } 2 (some cfg) (some e)

/-- a `Service` object agrees with the durable state.  Its in-memory configuration matters only once the service is
    configured; `moduleLoaded` and `schemeLoaded` are not constrained (no handler reads them). -/
def ConnOk (st : Nat) (cfg : Option Cfg) (edb : Option Edb) (c : Conn) : Prop :=
  c.state = st ∧ (st ≠ 0 → c.memConfig = cfg) ∧ (c.edbCache = none ∨ c.edbCache = edb)

def Inv (s : SrvD) : Prop :=
  ∃ st cfg edb, Shape s.disk st cfg edb ∧ (∀ c, s.conn = some c → ConnOk st cfg edb c) ∧
    (s.alive = true → s.conn.isSome)

/-- a missing `service_meta` counts as 0, as in `Service.__init__`; so does a truncated one, on which the constructor
    raises (`construct` fails): no `Shape` has one -/
def stOf (d : Disk) : Nat := match d.metaSt with | .full n => n | _ => 0

/-- the reference state a server state denotes, read off the files alone, whatever `conn` holds: the configuration counts
    from state 1 on, the index from state 2 on (a file that is there earlier is an unacknowledged leftover) -/
def absS (s : SrvD) : Spec3 :=
  { st := stOf s.disk,
    cfg := if stOf s.disk = 0 then none else match s.disk.config with | .full c => some c | _ => none,
    edb := if stOf s.disk ≤ 1 then none else match s.disk.edb with | .full e => some e | _ => none,
    alive := s.alive }

/-- the moves of the reference machine, as a relation on its durable part (`alive` is left free): it stays where it is,
    saying nothing a client could take for an answer, or follows one of the edges 0 → 1, 1 → 2, 2 → 2 (an answer) -/
inductive Move (t : Spec3) : Spec3 → List Out → Prop
  | stay (t' : Spec3) (outs : List Out) : t'.st = t.st → t'.cfg = t.cfg → t'.edb = t.edb →
      (∀ o ∈ outs, o = .closed ∨ ∃ mt, o = .refused mt) → Move t t' outs
  | config (t' : Spec3) (v : Cfg) : t.st = 0 → t'.st = 1 → t'.cfg = some v → t'.edb = t.edb →
      Move t t' [.ok "config"]
  | upload (t' : Spec3) (e : Edb) : t.st = 1 → t'.st = 2 → t'.cfg = t.cfg → t'.edb = some e →
      Move t t' [.ok "upload_edb"]
  | answer (t' : Spec3) (c : Cfg) (e : Edb) (k : Tok) : t.st = 2 → t.cfg = some c → t.edb = some e →
      t'.st = t.st → t'.cfg = t.cfg → t'.edb = t.edb → Move t t' [.result c e k]

theorem Move.of_alive {t t' : Spec3} {outs : List Out} {a : Bool} (mv : Move { t with alive := a } t' outs) :
    Move t t' outs := by
  cases mv with
  | stay _ hs hc he q => exact .stay _ _ hs hc he q
  | config v h0 h1 hc he => exact .config _ v h0 h1 hc he
  | upload e h1 h2 hc he => exact .upload _ e h1 h2 hc he
  | answer c e k h2 hc he hs hc' he' => exact .answer _ c e k h2 hc he hs hc' he'

theorem spec3Msg_move (t : Spec3) (m : Msg) : Move t (spec3Msg t m).1 (spec3Msg t m).2 := by
  have closed : Move t t.die [.closed] := .stay _ _ rfl rfl rfl (by simp)
  have refused : ∀ mt, Move t t.die [.refused mt, .closed] := fun mt => .stay _ _ rfl rfl rfl (by simp)
  cases m <;> simp only [spec3Msg]
  case foreignSid | noType | noSid => exact .stay _ _ rfl rfl rfl nofun
  case unknownType => exact closed
  case config c =>
    split
    · exact refused _
    · rename_i h
      cases c with
      | none => exact closed
      | some v => exact .config _ v (Decidable.not_not.mp h) rfl rfl rfl
  case upload e =>
    split
    · exact refused _
    · rename_i h; exact .upload _ e (Decidable.not_not.mp h) rfl rfl rfl
  case search tk =>
    split
    · exact refused _
    · rename_i h
      split
      · rename_i k c e hc he; exact .answer _ c e k (Decidable.not_not.mp h) hc he rfl rfl rfl
      · exact closed

theorem spec3Step_move (t : Spec3) (e : Ev) :
    ∃ outs, Move t (spec3Step t e).1 outs ∧ ∀ o ∈ (spec3Step t e).2, o = .initEcho t.st ∨ o ∈ outs := by
  cases e with
  | reconnect | reconnectFast =>
    exact ⟨[], .stay _ _ rfl rfl rfl nofun, fun o ho => Or.inl (List.mem_singleton.mp ho)⟩
  | msg m =>
    simp only [spec3Step]
    split
    · exact ⟨_, spec3Msg_move t m, fun o ho => Or.inr ho⟩
    -- a message that finds no connection is handled on a new one
    · exact ⟨_, (spec3Msg_move { t with alive := true } m).of_alive, fun o ho => (List.mem_cons.mp ho)⟩

theorem Move.of_result {t t' : Spec3} {outs : List Out} (mv : Move t t' outs) {c : Cfg} {e : Edb} {k : Tok}
    (h : Out.result c e k ∈ outs) : t.st = 2 ∧ t.cfg = some c ∧ t.edb = some e := by
  cases mv with
  | stay _ _ _ _ q => rcases q _ h with q | ⟨_, q⟩ <;> cases q
  | config | upload => simp at h
  | answer c' e' k' h2 hc he =>
    simp only [List.mem_singleton, Out.result.injEq] at h
    obtain ⟨rfl, rfl, rfl⟩ := h
    exact ⟨h2, hc, he⟩

/-- what `Move.mono` asks of the state before: the edges 0 → 1 and 1 → 2 set a field whatever it held, so there must be
    no configuration at 0 and no index at 0 and 1 -/
def Spec3.NoLeftover (t : Spec3) : Prop :=
  (t.st = 0 ∧ t.cfg = none ∧ t.edb = none) ∨ (t.st = 1 ∧ t.edb = none) ∨ t.st = 2

theorem Move.mono {t t' : Spec3} {outs : List Out} (mv : Move t t' outs) (hok : t.NoLeftover) :
    t.st ≤ t'.st ∧ (∀ c, t.cfg = some c → t'.cfg = some c) ∧ (∀ e, t.edb = some e → t'.edb = some e) := by
  cases mv with
  | stay _ hs hc he => rw [hs, hc, he]; exact ⟨Nat.le_refl _, fun _ h => h, fun _ h => h⟩
  | answer _ _ _ _ _ _ hs hc he => rw [hs, hc, he]; exact ⟨Nat.le_refl _, fun _ h => h, fun _ h => h⟩
  | config v hst hst' hc he =>
    -- the edge starts at 0 (`hst`), where `NoLeftover` says there is no configuration
    have h0 : t.cfg = none := by
      rcases hok with ⟨_, h, _⟩ | ⟨h, _⟩ | h
      · exact h
      · omega
      · omega
    rw [hst, hst', he, h0]; exact ⟨by decide, nofun, fun _ h => h⟩
  | upload x hst hst' hc he =>
    -- the edge starts at 1 (`hst`), where `NoLeftover` says there is no index
    have h1 : t.edb = none := by
      rcases hok with ⟨h, _⟩ | ⟨_, h⟩ | h
      · omega
      · exact h
      · omega
    rw [hst, hst', hc, h1]; exact ⟨by decide, fun _ h => h, nofun⟩

/-- the triples a `Shape` denotes; `C10.Ok t` says this of the fields of `t`, `t.NoLeftover` the same less the `isSome` -/
def OkTriple (st : Nat) (cfg : Option Cfg) (edb : Option Edb) : Prop :=
  (st = 0 ∧ cfg = none ∧ edb = none) ∨ (st = 1 ∧ cfg.isSome ∧ edb = none) ∨ (st = 2 ∧ cfg.isSome ∧ edb.isSome)

theorem Shape.ok {d : Disk} {st : Nat} {cfg : Option Cfg} {edb : Option Edb} (hs : Shape d st cfg edb) :
    OkTriple st cfg edb := by
  cases hs with
  | fresh | z00 | z01 | z10 _ | z11 _ => exact .inl ⟨rfl, rfl, rfl⟩
  | configured _ | configuredE _ _ => exact .inr (.inl ⟨rfl, rfl, rfl⟩)
  | ready _ _ => exact .inr (.inr ⟨rfl, rfl, rfl⟩)

theorem Spec3.NoLeftover.of_ok {t : Spec3} (h : OkTriple t.st t.cfg t.edb) : t.NoLeftover := by
  rcases h with ⟨h0, hcfg, hedb⟩ | ⟨h1, _, hedb⟩ | ⟨h2, _, _⟩
  · exact .inl ⟨h0, hcfg, hedb⟩
  · exact .inr (.inl ⟨h1, hedb⟩)
  · exact .inr (.inr h2)

theorem construct_shape {d : Disk} {st : Nat} {cfg : Option Cfg} {edb : Option Edb} (hs : Shape d st cfg edb) :
    ∃ c, construct P d = some (c, [.initEcho st]) ∧ ConnOk st cfg edb c := by
  cases hs with
  | fresh | z00 | z01 | z10 _ | z11 _ => exact ⟨_, rfl, rfl, fun h => absurd rfl h, Or.inl rfl⟩
  | configured _ | configuredE _ _ | ready _ _ => exact ⟨_, rfl, rfl, fun _ => rfl, Or.inl rfl⟩

theorem closeConn_eq (d : Disk) (c : Conn) :
    closeConn P d c = if d.dir then { d with metaSt := .full c.state } else d := by
  obtain ⟨_ | _, dc, dm, de⟩ := d <;> rfl

theorem closeConn_shape {d : Disk} {st : Nat} {cfg : Option Cfg} {edb : Option Edb} {c : Conn}
    (hs : Shape d st cfg edb) (hc : c.state = st) : Shape (closeConn P d c) st cfg edb := by
  rw [closeConn_eq, hc]
  cases hs
  case fresh => exact .fresh
  -- on a half-created folder the write-back adds a `service_meta` saying 0
  case z00 | z01 => exact .z01
  case z10 v | z11 v => exact .z11 v
  case configured cf => exact .configured cf
  case configuredE cf e => exact .configuredE cf e
  case ready cf e => exact .ready cf e

/-- `handleMsg` returns `r` = (disk, connection object, still alive?, observations, how the handler ended); the last is not
    constrained -/
theorem handleMsg_refines {d : Disk} {st : Nat} {cfg : Option Cfg} {edb : Option Edb} {c : Conn} (m : Msg)
    (hs : Shape d st cfg edb) (hc : ConnOk st cfg edb c) :
    let r := handleMsg P d c m
    ∃ st' cfg' edb', Shape r.1 st' cfg' edb' ∧ ConnOk st' cfg' edb' r.2.1 ∧
      r.2.2.2.1 = (spec3Msg { st, cfg, edb, alive := true } m).2 ∧
      (spec3Msg { st, cfg, edb, alive := true } m).1 = { st := st', cfg := cfg', edb := edb', alive := r.2.2.1 } := by
  obtain ⟨cst, cmc, cml, csl, cec⟩ := c
  obtain ⟨h1, h2, h3⟩ := hc
  simp only at h1 h2 h3
  subst h1
  have keep : ConnOk cst cfg edb ⟨cst, cmc, cml, csl, cec⟩ := ⟨rfl, h2, h3⟩
  -- whether a request is refused the guards decide on `cst` alone: with `cst` a numeral both sides evaluate on any disk
  cases m with
  | foreignSid | noType | noSid | unknownType => exact ⟨cst, cfg, edb, hs, keep, rfl, rfl⟩
  | config co =>
    rcases hs.ok with ⟨rfl, rfl, rfl⟩ | ⟨rfl, -⟩ | ⟨rfl, -⟩
    · cases co with
      | none => exact ⟨0, none, none, hs, keep, rfl, rfl⟩
      | some v =>
        -- the handler makes the folder if need be and overwrites configuration and state: of the disk it reads
        -- `dir` alone, and no shape of state 0 has an index
        obtain ⟨dd, dc, dm, de⟩ := d
        have hde : de = .absent := by cases hs <;> rfl
        subst hde
        cases dd <;> exact ⟨1, some v, none, .configured v, ⟨rfl, fun _ => rfl, h3⟩, rfl, rfl⟩
    · exact ⟨1, cfg, edb, hs, keep, rfl, rfl⟩
    · exact ⟨2, cfg, edb, hs, keep, rfl, rfl⟩
  | upload e =>
    rcases hs.ok with ⟨rfl, -⟩ | ⟨rfl, -⟩ | ⟨rfl, -⟩
    · exact ⟨0, cfg, edb, hs, keep, rfl, rfl⟩
    · cases hs with
      | configured cf | configuredE cf _ =>
        -- no index at state 1, so the cache is empty on either side of `h3`
        have hcache : cec = none := h3.elim id id
        exact ⟨2, some cf, some e, .ready cf e, ⟨rfl, fun _ => h2 (by decide), Or.inl hcache⟩, rfl, rfl⟩
    · exact ⟨2, cfg, edb, hs, keep, rfl, rfl⟩
  | search t =>
    rcases hs.ok with ⟨rfl, -⟩ | ⟨rfl, -⟩ | ⟨rfl, -⟩
    · exact ⟨0, cfg, edb, hs, keep, rfl, rfl⟩
    · exact ⟨1, cfg, edb, hs, keep, rfl, rfl⟩
    · cases hs with
      | ready cf e =>
        have hmc : cmc = some cf := h2 (by decide)
        subst hmc
        -- the handler reads the index into the cache unless it is there; a missing token is noticed after that
        rcases h3 with h | h <;> subst h <;> cases t <;>
          exact ⟨2, some cf, some e, .ready cf e, ⟨rfl, fun _ => rfl, Or.inr rfl⟩, rfl, rfl⟩

theorem absS_of_shape (s : SrvD) {st : Nat} {cfg : Option Cfg} {edb : Option Edb} (h : Shape s.disk st cfg edb) :
    absS s = { st := st, cfg := cfg, edb := edb, alive := s.alive } := by
  unfold absS
  cases h' : s.disk
  rw [h'] at h
  cases h <;> rfl

theorem cleanupDisk_shape {s : SrvD} {st : Nat} {cfg : Option Cfg} {edb : Option Edb}
    (hs : Shape s.disk st cfg edb) (hc : ∀ c, s.conn = some c → c.state = st) :
    Shape (cleanupDisk P s) st cfg edb := by
  unfold cleanupDisk
  cases hconn : s.conn with
  | none => exact hs
  | some old => exact closeConn_shape hs (hc old hconn)

/-- the constructor reads the disk after the old connection's cleanup (`reconnectSlow`) or before it (`reconnectFast`) -/
theorem reconnect_refines {s : SrvD} (hinv : Inv s) {dRead : Disk} (hR : dRead = cleanupDisk P s ∨ dRead = s.disk) :
    ∃ s', connectOn P dRead (cleanupDisk P s) = (s', [.initEcho (absS s).st]) ∧
      Inv s' ∧ s'.alive = true ∧ s'.conn.isSome ∧ absS s' = { absS s with alive := true } := by
  obtain ⟨st, cfg, edb, hs, hc, _⟩ := hinv
  have habs := absS_of_shape s hs
  have hcl := cleanupDisk_shape hs fun c h => (hc c h).1
  have hRead : Shape dRead st cfg edb := by
    rcases hR with rfl | rfl
    · exact hcl
    · exact hs
  obtain ⟨c, hcons, hcok⟩ := construct_shape hRead
  let s' : SrvD := { disk := cleanupDisk P s, conn := some c, alive := true }
  have hrun : connectOn P dRead (cleanupDisk P s) = (s', [.initEcho (absS s).st]) := by
    simp only [connectOn, hcons, habs]
    rfl
  have hinv' : Inv s' := by
    refine ⟨st, cfg, edb, hcl, ?_, fun _ => rfl⟩
    intro c' hc'
    cases hc'
    exact hcok
  have habs' : absS s' = { absS s with alive := true } := by rw [absS_of_shape s' hcl, habs]
  exact ⟨s', hrun, hinv', rfl, rfl, habs'⟩

/-- `r` as in `handleMsg_refines` -/
theorem msg_refines {s : SrvD} {c : Conn} (m : Msg) (hinv : Inv s) (hconn : s.conn = some c) :
    let r := handleMsg P s.disk c m
    let s' : SrvD := { disk := r.1, conn := some r.2.1, alive := r.2.2.1 }
    Inv s' ∧ r.2.2.2.1 = (spec3Msg { absS s with alive := true } m).2 ∧
      absS s' = (spec3Msg { absS s with alive := true } m).1 := by
  intro r s'
  obtain ⟨st, cfg, edb, hs, hc, _⟩ := hinv
  obtain ⟨st', cfg', edb', hs', hc', ho, hsp⟩ := handleMsg_refines m hs (hc c hconn)
  rw [absS_of_shape s hs]
  refine ⟨⟨st', cfg', edb', hs', ?_, fun _ => rfl⟩, ho, ?_⟩
  · intro c' h'; cases h'; exact hc'
  · rw [absS_of_shape s' hs']; exact hsp.symm

/-- one event of the server is one step of the reference machine from the denoted state -/
theorem step_refines (s : SrvD) (hinv : Inv s) (ev : Ev) :
    Inv (stepEv P s ev).1 ∧ (stepEv P s ev).2 = (spec3Step (absS s) ev).2 ∧
      absS (stepEv P s ev).1 = (spec3Step (absS s) ev).1 := by
  cases ev with
  | reconnect =>
    obtain ⟨s', h, hi, _, _, ha⟩ := reconnect_refines hinv (Or.inl rfl)
    simp only [stepEv, reconnectSlow, h, spec3Step]
    exact ⟨hi, trivial, ha⟩
  | reconnectFast =>
    obtain ⟨s', h, hi, _, _, ha⟩ := reconnect_refines hinv (Or.inr rfl)
    simp only [stepEv, reconnectFast, h, spec3Step]
    exact ⟨hi, trivial, ha⟩
  | msg m =>
    cases halive : s.alive with
    | true =>
      obtain ⟨st, cfg, edb, hs, hc, ha⟩ := hinv
      obtain ⟨c, hconn⟩ := Option.isSome_iff_exists.mp (ha halive)
      have h := msg_refines m ⟨st, cfg, edb, hs, hc, ha⟩ hconn
      have habs_alive : ({ absS s with alive := true } : Spec3) = absS s := by simp [absS, halive]
      rw [habs_alive] at h
      have hal : (absS s).alive = true := halive
      simp only [stepEv, halive, ↓reduceIte, hconn, List.nil_append, spec3Step, hal]
      exact h
    | false =>
      obtain ⟨s', hre, hi, hal', hsome, habs'⟩ := reconnect_refines hinv (Or.inl rfl)
      obtain ⟨c0, hc0⟩ := Option.isSome_iff_exists.mp hsome
      have h := msg_refines m hi hc0
      rw [habs'] at h
      have hal : (absS s).alive = false := halive
      simp only [stepEv, halive, Bool.false_eq_true, ↓reduceIte, reconnectSlow, hre, hc0, hal', spec3Step, hal]
      obtain ⟨hinv', hout, habs''⟩ := h
      exact ⟨hinv', congrArg ([Out.initEcho (absS s).st] ++ ·) hout, habs''⟩

theorem run_refines (evs : List Ev) : ∀ (s : SrvD), Inv s →
    Inv (runEvs P s evs).1 ∧ (runEvs P s evs).2 = (spec3Run (absS s) evs).2 ∧
      absS (runEvs P s evs).1 = (spec3Run (absS s) evs).1 := by
  induction evs with
  | nil => intro s h; exact ⟨h, rfl, rfl⟩
  | cons e es ih =>
    intro s h
    obtain ⟨h1, h2, h3⟩ := step_refines s h e
    obtain ⟨g1, g2, g3⟩ := ih _ h1
    simp only [runEvs, spec3Run]
    rw [← h3, h2, g2]
    exact ⟨g1, rfl, g3⟩

theorem Inv.of_shape {d : Disk} {st : Nat} {cfg : Option Cfg} {edb : Option Edb} (hs : Shape d st cfg edb) :
    Inv { disk := d, conn := none, alive := false } :=
  ⟨st, cfg, edb, hs, nofun, nofun⟩

/-! The server dies after `k` file-system mutations of a handler (C13).  What a budget buys (`tick`): `mkdir` costs one unit,
  and each atomic write three — open the temporary file, write it, rename it over the target — of which only the rename
  changes what a loader sees.  Storing a configuration is mkdir (skipped when the folder exists), `config.json`,
  `service_meta`: the disk changes from budget 1 on (folder), 4 on (configuration) and 7 on (state), resp. 3 and 6 without
  the mkdir.  Storing an index is `edb`, `service_meta`: from 3 and 6 on. -/

theorem crash_config {d : Disk} {st : Nat} {cfg : Option Cfg} {edb : Option Edb} (hs : Shape d st cfg edb)
    {c : Conn} (hc : c.state = st) (v : Cfg) (k : Nat) :
    Shape (handleMsg P d c (.config (some v)) (some k)).1 st cfg edb ∨
    Shape (handleMsg P d c (.config (some v)) (some k)).1 1 (some v) none := by
  obtain ⟨cst, cmc, cml, csl, cec⟩ := c
  subst hc
  have keep := hs
  cases hs with
  | fresh =>
    match k with
    | 0 => exact Or.inl keep
    | 1 | 2 | 3 => exact Or.inl .z00
    | 4 | 5 | 6 => exact Or.inl (.z10 v)
    | _ + 7 => exact Or.inr (.configured v)
  | z00 | z10 _ =>
    match k with
    | 0 | 1 | 2 => exact Or.inl keep
    | 3 | 4 | 5 => exact Or.inl (.z10 v)
    | _ + 6 => exact Or.inr (.configured v)
  | z01 | z11 _ =>
    match k with
    | 0 | 1 | 2 => exact Or.inl keep
    | 3 | 4 | 5 => exact Or.inl (.z11 v)
    | _ + 6 => exact Or.inr (.configured v)
  | configured _ | configuredE _ _ | ready _ _ => exact Or.inl keep

theorem crash_upload {d : Disk} {st : Nat} {cfg : Option Cfg} {edb : Option Edb} (hs : Shape d st cfg edb)
    {c : Conn} (hc : c.state = st) (e : Edb) (k : Nat) :
    Shape (handleMsg P d c (.upload e) (some k)).1 st cfg edb ∨
    (∃ cf, cfg = some cf ∧ Shape (handleMsg P d c (.upload e) (some k)).1 2 (some cf) (some e)) := by
  obtain ⟨cst, cmc, cml, csl, cec⟩ := c
  subst hc
  have keep := hs
  cases hs with
  | configured cf | configuredE cf _ =>
    match k with
    | 0 | 1 | 2 => exact Or.inl keep
    | 3 | 4 | 5 => exact Or.inl (.configuredE cf e)
    | _ + 6 => exact Or.inr ⟨cf, rfl, .ready cf e⟩
  | fresh | z00 | z01 | z10 _ | z11 _ | ready _ _ => exact Or.inl keep

/-- the handlers of these requests reach no write effect, so `tick` is never asked -/
theorem crash_other (d : Disk) (c : Conn) (m : Msg) (k : Nat)
    (hm : ∀ v, m ≠ .config (some v)) (hu : ∀ e, m ≠ .upload e) :
    (handleMsg P d c m (some k)).1 = d := by
  obtain ⟨cst, cmc, cml, csl, cec⟩ := c
  cases m with
  | config v =>
    cases v with
    | some v => exact absurd rfl (hm v)
    | none => cases cst <;> rfl
  | upload e => exact absurd rfl (hu e)
  | search t =>
    rcases cst with _|_|cst
    · rfl
    · rfl
    · cases cmc with
      | none => rfl
      | some mc =>
        cases cec with
        | some ec => cases t <;> rfl
        | none =>
          obtain ⟨dd, dc, dm, de⟩ := d
          cases de <;> cases t <;> rfl
  | foreignSid | noType | noSid | unknownType => rfl

end SSEPy.ServerIR
