/-
  Feistel networks.  On bit strings: the decryption loop is the encryption loop on the swapped pair, one
  round followed by a swap is an involution, hence running the rounds of any schedule backwards on the swapped
  result gives the swapped input (`foldl_encStep_swap`); both directions of "decrypt ∘ encrypt" are instances of
  it, for every total round function (`TotalRound.inverse`).  On bytes: Luby–Rackoff is injective for any PRF.
-/
import SSEPyVerif.Model.Feistel
import SSEPyVerif.Proofs.Bits
import SSEPyVerif.Proofs.Bytes
namespace SSEPy
open Bitset

abbrev PureRound := Nat → Bitset → Nat → Bitset

def GoodRound (G : PureRound) : Prop := ∀ i s L, 0 < L → (G i s L).length = L ∧ (G i s L).WF

def liftRound (G : PureRound) : RoundFn := fun i s L => .ok (G i s L)

def encStep (G : PureRound) (p : Bitset × Bitset) (i : Nat) : Bitset × Bitset :=
  (p.2, p.1.xor (G i p.2 p.1.length))

structure PairOk (p : Bitset × Bitset) : Prop where
  wf_fst : p.1.WF
  wf_snd : p.2.WF
  pos_fst : 0 < p.1.length
  pos_snd : 0 < p.2.length

theorem PairOk.swap {p : Bitset × Bitset} (hp : PairOk p) : PairOk p.swap :=
  { wf_fst := hp.wf_snd, wf_snd := hp.wf_fst, pos_fst := hp.pos_snd, pos_snd := hp.pos_fst }

theorem ffxDecLoop_eq_swap (F : RoundFn) : ∀ (is : List Nat) (a b : Bitset),
    ffxDecLoop F is a b = Prod.swap <$> ffxEncLoop F is b a := by
  intro is
  induction is with
  | nil => intro a b; rfl
  | cons i is ih =>
    intro a b
    simp only [ffxDecLoop, ffxEncLoop, ih, map_bind]

theorem ffxEncLoop_lift (G : PureRound) : ∀ (is : List Nat) (a b : Bitset),
    ffxEncLoop (liftRound G) is a b = .ok (is.foldl (encStep G) (a, b)) := by
  intro is
  induction is with
  | nil => intro a b; rfl
  | cons i is ih =>
    intro a b
    simp [ffxEncLoop, liftRound, ok_bind, ih, encStep]

theorem ffxDecLoop_lift (G : PureRound) (is : List Nat) (a b : Bitset) :
    ffxDecLoop (liftRound G) is a b = .ok (is.foldl (encStep G) (b, a)).swap := by
  rw [ffxDecLoop_eq_swap, ffxEncLoop_lift]; rfl

theorem encStep_pairOk (G : PureRound) (hG : GoodRound G) (p : Bitset × Bitset) (i : Nat) (hp : PairOk p) :
    PairOk (encStep G p i) ∧ (encStep G p i).1.length = p.2.length ∧ (encStep G p i).2.length = p.1.length := by
  obtain ⟨gl, gw⟩ := hG i p.2 p.1.length hp.pos_fst
  have hlen : (p.1.xor (G i p.2 p.1.length)).length = p.1.length := by
    rw [length_xor, gl, Nat.max_self]
  have hpos : 0 < (p.1.xor (G i p.2 p.1.length)).length := by
    rw [hlen]
    exact hp.pos_fst
  exact ⟨{ wf_fst := hp.wf_snd, wf_snd := hp.wf_fst.xor gw, pos_fst := hp.pos_snd, pos_snd := hpos }, rfl, hlen⟩

/-- one round followed by a swap is `(a, b) ↦ (a ⊕ G b, b)`: an involution -/
theorem encStep_swap_encStep (G : PureRound) (hG : GoodRound G) (p : Bitset × Bitset) (i : Nat) (hp : PairOk p) :
    encStep G (encStep G p i).swap i = p.swap := by
  obtain ⟨gl, _⟩ := hG i p.2 p.1.length hp.pos_fst
  obtain ⟨_, _, hlen⟩ : _ ∧ _ ∧ (p.1.xor (G i p.2 p.1.length)).length = p.1.length := encStep_pairOk G hG p i hp
  simp only [encStep, Prod.swap, Prod.mk.injEq, true_and]
  rw [hlen, xor_cancel _ _ (Nat.le_of_eq gl)]

theorem foldl_encStep_pairOk (G : PureRound) (hG : GoodRound G) : ∀ (is : List Nat) (p : Bitset × Bitset), PairOk p →
    PairOk (is.foldl (encStep G) p) ∧
    ((is.foldl (encStep G) p).1.length, (is.foldl (encStep G) p).2.length) =
      if is.length % 2 = 0 then (p.1.length, p.2.length) else (p.2.length, p.1.length) := by
  intro is
  induction is with
  | nil => intro p hp; exact ⟨hp, rfl⟩
  | cons i is ih =>
    intro p hp
    obtain ⟨hok, hl1, hl2⟩ := encStep_pairOk G hG p i hp
    obtain ⟨h1, h2⟩ := ih _ hok
    refine ⟨h1, ?_⟩
    rw [List.foldl_cons, h2, hl1, hl2, List.length_cons]
    rcases Nat.mod_two_eq_zero_or_one is.length with h | h
    · rw [if_pos h, if_neg (by rw [Nat.add_mod, h]; decide)]
    · rw [if_neg (by rw [h]; decide), if_pos (by rw [Nat.add_mod, h])]

theorem foldl_encStep_length (G : PureRound) (hG : GoodRound G) (is : List Nat) (p : Bitset × Bitset) (hp : PairOk p)
    (hpar : is.length % 2 = 0 ∨ p.1.length = p.2.length) :
    (is.foldl (encStep G) p).1.length = p.1.length ∧ (is.foldl (encStep G) p).2.length = p.2.length := by
  obtain ⟨_, h⟩ := foldl_encStep_pairOk G hG is p hp
  rcases hpar with h0 | he
  · rw [if_pos h0] at h
    exact Prod.mk.inj h
  · rw [he, ite_self] at h
    rw [he]
    exact Prod.mk.inj h

theorem foldl_encStep_swap (G : PureRound) (hG : GoodRound G) : ∀ (is : List Nat) (p : Bitset × Bitset), PairOk p →
    is.reverse.foldl (encStep G) (is.foldl (encStep G) p).swap = p.swap := by
  intro is
  induction is with
  | nil => intro p _; rfl
  | cons i is ih =>
    intro p hp
    simp only [List.foldl_cons, List.reverse_cons, List.foldl_append, List.foldl_nil]
    obtain ⟨hok, _, _⟩ := encStep_pairOk G hG p i hp
    rw [ih _ hok]
    exact encStep_swap_encStep G hG p i hp

theorem halfNotPadding_concat (a b : Bitset) (ha : a.WF) (hb : b.WF)
    (hlen : a.length ≤ b.length ∧ b.length ≤ a.length + 1) :
    ∃ c, a.concat b = .ok c ∧ c.WF ∧ c.length = a.length + b.length ∧ c.halfNotPadding = .ok (a, b) := by
  refine ⟨_, concat_eq ha hb, ha.concat hb, rfl, ?_⟩
  have e1 : (a.length + b.length + 1) / 2 = b.length := by omega
  have e2 : (a.length + b.length) / 2 = a.length := by omega
  have ev : (a.value * 2 ^ b.length + b.value) / 2 ^ b.length = a.value := by
    rw [Nat.add_comm, Nat.add_mul_div_right _ _ (Nat.pow_pos (by decide)), Nat.div_eq_of_lt hb, Nat.zero_add]
  have em : (a.value * 2 ^ b.length + b.value) % 2 ^ b.length = b.value := by
    rw [Nat.mul_add_mod', Nat.mod_eq_of_lt hb]
  rw [(halfNotPadding_spec (ha.concat hb)).1]
  simp only [e1, e2, ev, em]

theorem concat_of_halfNotPadding (v l r : Bitset) (hv : v.WF) (h : v.halfNotPadding = .ok (l, r)) :
    l.concat r = .ok v ∧ l.WF ∧ r.WF ∧ l.length = v.length / 2 ∧ r.length = (v.length + 1) / 2 := by
  obtain ⟨h', hw, hw'⟩ := halfNotPadding_spec hv
  rw [h'] at h
  obtain ⟨rfl, rfl⟩ := Prod.mk.inj (Except.ok.inj h)
  refine ⟨?_, hw, hw', rfl, rfl⟩
  have hsum : v.length / 2 + (v.length + 1) / 2 = v.length := by omega
  show mk' (v.value / 2 ^ ((v.length + 1) / 2) * 2 ^ ((v.length + 1) / 2) + v.value % 2 ^ ((v.length + 1) / 2))
    (v.length / 2 + (v.length + 1) / 2) = .ok v
  rw [Nat.div_add_mod', hsum]
  exact mk'_of_lt _ _ hv

/-- The frame shared by encryption and decryption: `X` splits, applies `f` to the pair and joins, `Y` does the
    same with `g` (`hX`, `hY`).  If `f` keeps well-formed pairs and both lengths and `g` undoes it (`hf`, which may
    assume equal halves on an even width), `X v` has `v`'s length and `Y` maps it back; `hn`: no half is empty. -/
theorem split_map_join (v : Bitset) (hv : v.WF) (hn : 2 ≤ v.length) (f g : Bitset × Bitset → Bitset × Bitset)
    (hf : ∀ p, PairOk p → (v.length % 2 = 0 → p.1.length = p.2.length) →
      PairOk (f p) ∧ ((f p).1.length = p.1.length ∧ (f p).2.length = p.2.length) ∧ g (f p) = p)
    (X Y : Bitset → Except Err Bitset)
    (hX : ∀ u p, u.halfNotPadding = .ok p → X u = (f p).1.concat (f p).2)
    (hY : ∀ u p, u.halfNotPadding = .ok p → Y u = (g p).1.concat (g p).2) :
    ∃ w, X v = .ok w ∧ w.WF ∧ w.length = v.length ∧ Y w = .ok v := by
  obtain ⟨l, r, hsplit⟩ : ∃ l r, v.halfNotPadding = .ok (l, r) := ⟨_, _, (halfNotPadding_spec hv).1⟩
  obtain ⟨hcat, hlw, hrw, hll, hrl⟩ := concat_of_halfNotPadding v l r hv hsplit
  obtain ⟨hsum, hbal⟩ : l.length + r.length = v.length ∧ l.length ≤ r.length ∧ r.length ≤ l.length + 1 := by
    omega
  -- `omega` is slow to check with the two divisions in the context
  clear hll hrl
  have heven : v.length % 2 = 0 → l.length = r.length := by omega
  have hl0 : 0 < l.length := by omega
  have hr0 : 0 < r.length := by omega
  have hp : PairOk (l, r) := { wf_fst := hlw, wf_snd := hrw, pos_fst := hl0, pos_snd := hr0 }
  obtain ⟨hok, ⟨h1, h2⟩, hg⟩ := hf (l, r) hp heven
  dsimp only at h1 h2
  -- `f` keeps the two lengths, so the joined result `w` splits again into exactly `f (l, r)`
  have hbal' : (f (l, r)).1.length ≤ (f (l, r)).2.length ∧ (f (l, r)).2.length ≤ (f (l, r)).1.length + 1 := by
    rw [h1, h2]
    exact hbal
  obtain ⟨w, hw, hww, hwl, hwh⟩ := halfNotPadding_concat _ _ hok.wf_fst hok.wf_snd hbal'
  have hXv : X v = .ok w := by rw [hX v _ hsplit, hw]
  have hlen : w.length = v.length := by rw [hwl, h1, h2, hsum]
  have hYw : Y w = .ok v := by rw [hY w _ hwh, hg, hcat]
  exact ⟨w, hXv, hww, hlen, hYw⟩

/-- Stronger than `GoodRound` of the function it computes (`concreteRound_good`): well-formed at `L = 0` too. -/
def TotalRound (F : RoundFn) : Prop := ∀ i s L, ∃ g, F i s L = .ok g ∧ g.WF ∧ (0 < L → g.length = L)

def concreteRound (F : RoundFn) : PureRound := fun i s L =>
  match F i s L with
  | .ok g => g
  | .error _ => ⟨0, L⟩

theorem concreteRound_good (F : RoundFn) (hF : TotalRound F) :
    GoodRound (concreteRound F) ∧ F = liftRound (concreteRound F) := by
  constructor
  · intro i s L hL
    obtain ⟨g, hg, hw, hl⟩ := hF i s L
    simp only [concreteRound, hg]
    exact ⟨hl hL, hw⟩
  · funext i s L
    obtain ⟨g, hg, _, _⟩ := hF i s L
    simp only [liftRound, concreteRound, hg]

/-- `split_map_join` for the rounds `e` and the rounds backwards on the swapped pair `d`, in the two orders.  The
    parity condition is needed: an odd number of rounds on an odd width returns the halves with their lengths
    swapped, and `halfNotPadding` then re-splits the joined string at a different position. -/
theorem TotalRound.inverse {F : RoundFn} (hF : TotalRound F) (rounds : Nat) (v : Bitset) (hv : v.WF)
    (hn : 2 ≤ v.length) (hpar : rounds % 2 = 0 ∨ v.length % 2 = 0) :
    (∃ w, ffxEncrypt F rounds v = .ok w ∧ w.WF ∧ w.length = v.length ∧ ffxDecrypt F rounds w = .ok v) ∧
    ∃ w, ffxDecrypt F rounds v = .ok w ∧ w.WF ∧ w.length = v.length ∧ ffxEncrypt F rounds w = .ok v := by
  obtain ⟨hG, hlift⟩ := concreteRound_good F hF
  rw [hlift]
  generalize concreteRound F = G at hG
  let e (p : Bitset × Bitset) := (List.range rounds).foldl (encStep G) p
  let d (q : Bitset × Bitset) := ((List.range rounds).reverse.foldl (encStep G) q.swap).swap
  have hE : ∀ u p, u.halfNotPadding = .ok p → ffxEncrypt (liftRound G) rounds u = (e p).1.concat (e p).2 :=
    fun u p h => by
      simp only [ffxEncrypt, h, ok_bind, ffxEncLoop_lift]
      rfl
  have hD : ∀ u p, u.halfNotPadding = .ok p → ffxDecrypt (liftRound G) rounds u = (d p).1.concat (d p).2 :=
    fun u p h => by
      simp only [ffxDecrypt, h, ok_bind, ffxDecLoop_lift]
      rfl
  refine ⟨split_map_join v hv hn e d (fun p hp hev => ?_) _ _ hE hD,
    split_map_join v hv hn d e (fun p hp hev => ?_) _ _ hD hE⟩
  · have hpar' : (List.range rounds).length % 2 = 0 ∨ p.1.length = p.2.length := by
      rw [List.length_range]
      rcases hpar with hr | hv2
      · exact .inl hr
      · exact .inr (hev hv2)
    have hinv : d (e p) = p := by
      show (_ : Bitset × Bitset).swap = p
      rw [foldl_encStep_swap G hG _ p hp, Prod.swap_swap]
    obtain ⟨hok, _⟩ := foldl_encStep_pairOk G hG (List.range rounds) p hp
    exact ⟨hok, foldl_encStep_length G hG _ p hp hpar', hinv⟩
  · -- `d` is `e` for the reversed schedule between two swaps
    have hpar' : (List.range rounds).reverse.length % 2 = 0 ∨ p.swap.1.length = p.swap.2.length := by
      rw [List.length_reverse, List.length_range]
      rcases hpar with hr | hv2
      · exact .inl hr
      · exact .inr (hev hv2).symm
    obtain ⟨hl1, hl2⟩ := foldl_encStep_length G hG (List.range rounds).reverse p.swap hp.swap hpar'
    have hinv := foldl_encStep_swap G hG (List.range rounds).reverse p.swap hp.swap
    rw [List.reverse_reverse, Prod.swap_swap] at hinv
    obtain ⟨hok, _⟩ := foldl_encStep_pairOk G hG (List.range rounds).reverse p.swap hp.swap
    exact ⟨hok.swap, ⟨hl2, hl1⟩, hinv⟩

/-- each pass appends the `d.length ≥ 1` bits of `d`, so `fuel + res.length ≥ outLen + 1` is kept until the length
    has reached `outLen` -/
theorem ffxRoundLoop_returns (d : Bitset) (hd : d.WF) (hd0 : 0 < d.length) (outLen : Nat) :
    ∀ (fuel : Nat) (res : Bitset), res.WF → 1 ≤ fuel → outLen + 1 ≤ fuel + res.length →
      ∃ r, ffxRoundLoop d outLen fuel res = .ok r ∧ r.WF ∧ outLen ≤ r.length := by
  intro fuel
  induction fuel with
  | zero => intro res _ h _; omega
  | succ f ih =>
    intro res hres _ h
    unfold ffxRoundLoop
    simp only [concat_eq hres hd, ok_bind]
    by_cases hge : res.length + d.length ≥ outLen
    · simp only [hge, ↓reduceIte]; exact ⟨_, rfl, hres.concat hd, hge⟩
    · simp only [hge, ↓reduceIte]
      exact ih _ (hres.concat hd) (by omega) (by simp only; omega)

theorem round_len (hmac : Hmac) (dB : Nat) (hlen : ∀ k m, (hmac k m).length = dB) (hdB : 0 < dB)
    (key : Bytes) (i : Nat) (s : Bitset) (L : Nat) :
    ∃ g, ffxRound hmac dB key i s L = .ok g ∧ g.WF ∧ g.length = (if L = 0 then s.length else L) := by
  unfold ffxRound
  have hv : fromBE (hmac key (ffxPre i s ++ packI 0)) < 2 ^ (dB * 8) :=
    fromBE_lt_of_le (by rw [hlen, Nat.mul_comm]; exact Nat.le_refl _)
  simp only [mk'_of_lt _ _ hv, ok_bind]
  have hdw : (⟨fromBE (hmac key (ffxPre i s ++ packI 0)), dB * 8⟩ : Bitset).WF := hv
  have hd0 : 0 < dB * 8 := by omega
  generalize houtLen : (if (L == 0) = true then s.length else L) = outLen
  have hfuel : outLen + 1 ≤ outLen + 1 + (⟨0, 0⟩ : Bitset).length := Nat.le_add_right _ _
  obtain ⟨r, hr, hrw, hrl⟩ := ffxRoundLoop_returns _ hdw hd0 outLen (outLen + 1) ⟨0, 0⟩
    (by decide) (Nat.le_add_left _ _) hfuel
  simp only [hr]
  refine ⟨_, getHigherBits_eq hrw _ hrl, hrw.high _ hrl, ?_⟩
  rw [← houtLen]
  by_cases h0 : L = 0
  · rw [if_pos h0, if_pos (beq_iff_eq.mpr h0)]
  · rw [if_neg h0, if_neg (fun h => h0 (beq_iff_eq.mp h))]

theorem ffxRound_total (hmac : Hmac) (dB : Nat) (hlen : ∀ k m, (hmac k m).length = dB) (hdB : 0 < dB)
    (key : Bytes) : TotalRound (ffxRound hmac dB key) := by
  intro i s L
  obtain ⟨g, hg, hw, hl⟩ := round_len hmac dB hlen hdB key i s L
  exact ⟨g, hg, hw, fun hL => by rw [hl, if_neg (Nat.ne_of_gt hL)]⟩

theorem lrStep_eq_ok {prf : Bytes → Bytes → Except Err Bytes} {k : Bytes} {p s : Bytes × Bytes} :
    lrStep prf k p = .ok s ↔ ∃ f, prf k p.2 = .ok f ∧ f.length ≤ p.1.length ∧ (p.2, xorPrefix p.1 f) = s := by
  simp only [lrStep, ok_inv, bytesXor_eq_ok, and_assoc, exists_and_left, exists_eq_left']

theorem lrStep_inj {prf : Bytes → Bytes → Except Err Bytes} {k : Bytes} {p q s : Bytes × Bytes}
    (hp : lrStep prf k p = .ok s) (hq : lrStep prf k q = .ok s) : p = q := by
  obtain ⟨fp, hfp, _, rfl⟩ := lrStep_eq_ok.1 hp
  obtain ⟨fq, hfq, _, hsq⟩ := lrStep_eq_ok.1 hq
  obtain ⟨h2, hx⟩ := Prod.mk.inj hsq
  rw [h2, hfp] at hfq
  cases hfq
  -- the same mask was xored onto both left halves
  have h1 := congrArg (fun z => xorPrefix z fp) hx
  simp only [xorPrefix_involution] at h1
  exact Prod.ext h1.symm h2.symm

theorem lrStep_length {prf : Bytes → Bytes → Except Err Bytes} {k : Bytes} {p s : Bytes × Bytes}
    (hp : lrStep prf k p = .ok s) : s.1.length = p.2.length ∧ s.2.length = p.1.length := by
  obtain ⟨fp, _, _, rfl⟩ := lrStep_eq_ok.1 hp
  exact ⟨rfl, xorPrefix_length _ _⟩

theorem lr3_eq_ok {prf : Bytes → Bytes → Except Err Bytes} {k0 k1 k2 : Bytes} {s0 s3 : Bytes × Bytes} :
    lr3 prf k0 k1 k2 s0 = .ok s3 ↔
      ∃ s1, lrStep prf k0 s0 = .ok s1 ∧ ∃ s2, lrStep prf k1 s1 = .ok s2 ∧ lrStep prf k2 s2 = .ok s3 := by
  simp only [lr3, ok_inv]

theorem lr3_inj {prf : Bytes → Bytes → Except Err Bytes} {k0 k1 k2 : Bytes} {p q s : Bytes × Bytes}
    (hp : lr3 prf k0 k1 k2 p = .ok s) (hq : lr3 prf k0 k1 k2 q = .ok s) : p = q := by
  obtain ⟨p1, a1, p2, a2, a3⟩ := lr3_eq_ok.1 hp
  obtain ⟨q1, b1, q2, b2, b3⟩ := lr3_eq_ok.1 hq
  cases lrStep_inj a3 b3
  cases lrStep_inj a2 b2
  exact lrStep_inj a1 b1

theorem lr3_length {prf : Bytes → Bytes → Except Err Bytes} {k0 k1 k2 : Bytes} {p s : Bytes × Bytes}
    (hp : lr3 prf k0 k1 k2 p = .ok s) : s.1.length = p.2.length ∧ s.2.length = p.1.length := by
  obtain ⟨p1, a1, p2, a2, a3⟩ := lr3_eq_ok.1 hp
  have l1 := lrStep_length a1
  have l2 := lrStep_length a2
  have l3 := lrStep_length a3
  exact ⟨l3.1.trans (l2.2.trans l1.1), l3.2.trans (l2.1.trans l1.2)⟩

/-- the `i`-th of the three round keys: the expression of the local `keyAt` of `lrCore` (`lrCore_eq_ok` unfolds both) -/
def keyAt (key : Bytes) (i : Nat) : Bytes := slice key (i * (key.length / 3)) (i * (key.length / 3) + key.length / 3)

theorem lrCore_eq_ok {prf : Bytes → Bytes → Except Err Bytes} {key msg c : Bytes} :
    lrCore prf key msg = .ok c ↔ ∃ s3, lr3 prf (keyAt key 0) (keyAt key 1) (keyAt key 2)
        (msg.take (msg.length / 2), msg.drop (msg.length / 2)) = .ok s3 ∧ s3.1 ++ s3.2 = c := by
  simp only [lrCore, ok_inv, keyAt]

theorem LubyRackoff.call_eq_ok {p : LubyRackoff} {key m c : Bytes} :
    p.call key m = .ok c ↔ (key.length : Int) = p.keyLength ∧ (m.length : Int) = p.messageLength ∧
      key.length / 3 ≠ 0 ∧ lrCore p.prf.call key m = .ok c := by
  simp only [LubyRackoff.call, ok_inv, bne_iff_ne, beq_iff_eq, ne_eq, Decidable.not_not]

end SSEPy
