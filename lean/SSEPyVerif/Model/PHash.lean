/-
  toolkit/prf/hmac_prf.py (`_tls_p_hash`, `HmacPRF`) and toolkit/hash.py
  (`HashlibHashVariableOutputLengthWrapper`).  The HMAC / hash digests are parameters (leaves).
-/
import SSEPyVerif.Model.Bytes
namespace SSEPy

/-- `LENGTH_UNLIMITED = -1`, `LENGTH_NOT_GIVEN = 0` (toolkit/constants.py) -/
def LENGTH_UNLIMITED : Int := -1
def LENGTH_NOT_GIVEN : Int := 0

/-- keyed digest leaf: `hmac.new(key, msg, digestmod).digest()` -/
abbrev Hmac := Bytes → Bytes → Bytes

/-- the countdown loop of `_tls_p_hash`:
    `while n > 0: res += H(key, a + message); a = H(key, a); n -= 1` -/
def pHashLoop (hmac : Hmac) (key msg : Bytes) : Nat → Bytes → Bytes → Bytes
  | 0, _, res => res
  | n + 1, a, res => pHashLoop hmac key msg n (hmac key a) (res ++ hmac key (a ++ msg))

/-- `_tls_p_hash(key, message, output_len)` with digest size `hashLen > 0`.
    `n = (output_len + hash_len - 1) // hash_len`; a non-positive `output_len` gives `b''`. -/
def tlsPHash (hmac : Hmac) (hashLen : Nat) (key msg : Bytes) (outputLen : Int) : Bytes :=
  if outputLen ≤ 0 then [] else
  let n := (outputLen.toNat + hashLen - 1) / hashLen
  (pHashLoop hmac key msg n (hmac key msg) []).take outputLen.toNat

/-! the RFC 5246 definition, written independently:
    `A(0) = seed, A(i) = HMAC(secret, A(i-1))`,
    `P_hash = HMAC(secret, A(1) + seed) + HMAC(secret, A(2) + seed) + ...` -/
def rfcA (hmac : Hmac) (secret seed : Bytes) : Nat → Bytes
  | 0 => seed
  | i + 1 => hmac secret (rfcA hmac secret seed i)

def rfcBlock (hmac : Hmac) (secret seed : Bytes) (i : Nat) : Bytes :=
  hmac secret (rfcA hmac secret seed i ++ seed)

/-- the first `n` blocks of the RFC stream: blocks 1..n -/
def rfcStream (hmac : Hmac) (secret seed : Bytes) (n : Nat) : Bytes :=
  ((List.range n).map fun i => rfcBlock hmac secret seed (i + 1)).flatten

/-- `HmacPRF(output_length, key_length, message_length, hash_func_name)` after `__init__`
    (`output_length == LENGTH_NOT_GIVEN` has been replaced by the digest size). -/
structure HmacPRF where
  outputLength : Int
  keyLength : Int
  messageLength : Int
  hashLen : Nat
  deriving Repr

def HmacPRF.new (outputLength keyLength messageLength : Int) (hashLen : Nat) : HmacPRF :=
  { outputLength := if outputLength == LENGTH_NOT_GIVEN then hashLen else outputLength,
    keyLength, messageLength, hashLen }

/-- `HmacPRF.__call__` -/
def HmacPRF.call (p : HmacPRF) (hmac : Hmac) (key msg : Bytes) : Except Err Bytes :=
  if p.keyLength != LENGTH_UNLIMITED && (key.length : Int) != p.keyLength then .error .valueError
  else if p.messageLength != LENGTH_UNLIMITED && (msg.length : Int) != p.messageLength then .error .valueError
  else .ok (tlsPHash hmac p.hashLen key msg p.outputLength)

/-! ### hash wrapper -/

/-- `_ctr_expand`: `c = 1; while len(result) < output_length: result += H(message + int_to_bytes(c)); c += 1`.
    Fuel bounds the loop; exhaustion is `diverges` (only possible for a zero-length digest). -/
def ctrLoop (hash : Bytes → Bytes) (msg : Bytes) (outLen : Nat) : Nat → Nat → Bytes → Except Err Bytes
  | 0, _, _ => .error .diverges
  | fuel + 1, c, result =>
    if result.length < outLen then
      ctrLoop hash msg outLen fuel (c + 1) (result ++ hash (msg ++ natToBytesMin c))
    else .ok (result.take outLen)

-- fuel `outputLen + 1` suffices whenever the digest is non-empty: every pass appends at least one byte
def ctrExpand (hash : Bytes → Bytes) (msg : Bytes) (outputLen : Int) : Except Err Bytes :=
  if outputLen ≤ 0 then .ok [] else ctrLoop hash msg outputLen.toNat (outputLen.toNat + 1) 1 []

/-- the wrapper's `__call__`: XOF algorithms delegate to the leaf `digest(n)`, the others expand in
    counter mode. (`digest(n)` with negative n raises ValueError in hashlib.) -/
def hashWrapperCall (isXof : Bool) (hash : Bytes → Bytes) (xof : Bytes → Nat → Bytes)
    (msg : Bytes) (outputLen : Int) : Except Err Bytes :=
  if isXof then (if outputLen < 0 then .error .valueError else .ok (xof msg outputLen.toNat))
  else ctrExpand hash msg outputLen

/-- `HashlibHashVariableOutputLengthWrapper.__init__`: `LENGTH_NOT_GIVEN` selects the digest size
    (which is 0 for the shake XOFs) -/
def hashWrapperNew (outputLength : Int) (digestSize : Nat) : Int :=
  if outputLength == LENGTH_NOT_GIVEN then digestSize else outputLength

end SSEPy
