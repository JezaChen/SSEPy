/-
  frontend/client/commands.py + services/service_name_handler.py: the command layer addresses services by a user-chosen
  NAME.  `create_service(config, name)` creates a service (a folder named by a fresh random sid) and records name ↦ sid in
  `service_mapping.json`; every other command resolves the name to the sid first.

  Names are compared as exact strings (no trimming, no case folding); a name that is taken is refused BEFORE anything is
  written (commit 08cb3ff; before it the new service folder was already on disk when the name was refused).
-/
namespace SSEPy.Cmd

structure World where
  services : List String := []            -- sids whose folder exists, in creation order
  names : List (String × String) := []    -- service_mapping.json, in insertion order
  deriving Repr, DecidableEq

/-- `create_service`: `cfgOk` = the scheme can be instantiated with the configuration (C11: `invalid_config_creates_nothing`);
    `sid` = the fresh service id.  Returns the new world and whether the command was accepted. -/
def create (w : World) (cfgOk : Bool) (name sid : String) : World × Bool :=
  if (w.names.lookup name).isSome then (w, false)
  else if !cfgOk then (w, false)
  else ({ services := w.services ++ [sid], names := w.names ++ [(name, sid)] }, true)

/-- `get_service_id_by_sname` -/
def resolve (w : World) (name : String) : Option String := w.names.lookup name

/-- a history of create commands -/
def run (w : World) : List (Bool × String × String) → World
  | [] => w
  | (c, n, s) :: rest => run (create w c n s).1 rest

end SSEPy.Cmd
