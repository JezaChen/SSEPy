/-
  toolkit/bits.py (`Bitset`) and toolkit/bits_utils.py — the code's `(value, length)` pair and each
  operator as written.  Values are non-negative Python ints (`Nat`).
-/
import SSEPyVerif.Model.Basic
import SSEPyVerif.Model.Bytes
import SSEPyVerif.Model.PySeq
namespace SSEPy

structure Bitset where
  value : Nat
  length : Nat
  deriving DecidableEq, Repr, Inhabited

namespace Bitset

/-- the length chosen by `Bitset(value)` when no length is given:
    `value.bit_length() if value > 0 else 0`. -/
def autoLen (v : Nat) : Nat := bitLength v

/-- `Bitset(value, length=0)`. `length == 0` means "not given". -/
def mk' (v : Nat) (len : Nat := 0) : Except Err Bitset :=
  if len ≠ 0 ∧ bitLength v > len then .error .valueError
  else .ok ⟨v, if len ≠ 0 then len else autoLen v⟩

/-- `Bitset(b: bytes, length)`. -/
def ofBytes (b : Bytes) (len : Nat := 0) : Except Err Bitset := mk' (fromBE b) len

def and (a b : Bitset) : Bitset := ⟨a.value &&& b.value, max a.length b.length⟩
def or (a b : Bitset) : Bitset := ⟨a.value ||| b.value, max a.length b.length⟩
def xor (a b : Bitset) : Bitset := ⟨a.value ^^^ b.value, max a.length b.length⟩
/-- `(~v) & ((1 << len) - 1)` -/
def invert (a : Bitset) : Bitset := ⟨2 ^ a.length - 1 - a.value % 2 ^ a.length, a.length⟩
/-- `(v << k) & ((1 << len) - 1)`, length kept -/
def shl (a : Bitset) (k : Nat) : Bitset := ⟨(a.value * 2 ^ k) % 2 ^ a.length, a.length⟩
/-- `v >> k`, length kept -/
def shr (a : Bitset) (k : Nat) : Bitset := ⟨a.value / 2 ^ k, a.length⟩

def toInt (a : Bitset) : Nat := a.value

/-- `bytes(b)`: `value.to_bytes((length+7)//8, 'big')`. -/
def toBytes (a : Bitset) : Except Err Bytes :=
  let w := (a.length + 7) / 8
  if a.value ≥ 256 ^ w then .error .overflowError else .ok (toBE w a.value)

/-- the bit at sequence position `i` (0 = MSB): `bool(value & (1 << (len - i - 1)))`. -/
def bitAt (a : Bitset) (i : Nat) : Bool := a.value.testBit (a.length - i - 1)

/-- `b[i]` for an int index.  `pos = len - i - 1`; a negative `pos` raises `ValueError`
    (negative shift count); a negative `i` reads above the length. -/
def getIdx (a : Bitset) (i : Int) : Except Err Bool :=
  let pos : Int := (a.length : Int) - i - 1
  if pos < 0 then .error .valueError else .ok (a.value.testBit pos.toNat)

/-- `b[start:stop:step]`.  If `slice.indices` raises (zero step) the method's bare `except:` falls
    back to `len(self) - s - 1`, which raises `TypeError`. -/
def getSlice (a : Bitset) (start stop step : Option Int) : Except Err (List Bool) :=
  match sliceRange start stop step a.length with
  | .error _ => .error .typeError
  | .ok idx => .ok (idx.map fun p => a.value.testBit ((a.length : Int) - p - 1).toNat)

/-- `b[:]`, also `list(iter(b))`. -/
def toBits (a : Bitset) : List Bool := (List.range a.length).map a.bitAt

def toStr (a : Bitset) : List Char := a.toBits.map fun b => if b then '1' else '0'

/-- `a.concat(b)` / `a + b`. -/
def concat (a b : Bitset) : Except Err Bitset :=
  mk' (a.value * 2 ^ b.length + b.value) (a.length + b.length)

def getHigherBits (a : Bitset) (k : Int) : Except Err Bitset :=
  if k < 0 then .error .valueError
  else if k > a.length then .error .valueError
  else mk' (a.shr (a.length - k.toNat)).value k.toNat

def getLowerBits (a : Bitset) (k : Int) : Except Err Bitset :=
  if k < 0 then .error .valueError
  else if k > a.length then .error .valueError
  else mk' ((a.shl (a.length - k.toNat)).shr (a.length - k.toNat)).value k.toNat

/-- `Bitset.from_sequence(seq)`: the value of the MSB-first bit list, *auto* length. -/
def fromSequence (s : List Bool) : Except Err Bitset :=
  mk' (s.foldl (fun acc b => 2 * acc + (if b then 1 else 0)) 0)

/-- `__eq__` between two Bitsets. -/
def beq (a b : Bitset) : Bool := a.value == b.value && a.length == b.length

/-- bits_utils.half_bits_not_padding -/
def halfNotPadding (x : Bitset) : Except Err (Bitset × Bitset) := do
  let halfLen := (x.length + 1) / 2
  let right ← x.getLowerBits halfLen
  let left ← x.getHigherBits (x.length - halfLen : Nat)
  .ok (left, right)

/-- bits_utils.half_bits (left half padded to the right half's length) -/
def half (x : Bitset) : Except Err (Bitset × Bitset) := do
  let halfLen := (x.length + 1) / 2
  let (left, right) ← x.halfNotPadding
  let left := if left.length < halfLen then { left with length := halfLen } else left
  .ok (left, right)

/-- well-formedness: the value fits the length. -/
def WF (b : Bitset) : Prop := b.value < 2 ^ b.length

instance (b : Bitset) : Decidable b.WF := by unfold WF; infer_instance

end Bitset
end SSEPy
