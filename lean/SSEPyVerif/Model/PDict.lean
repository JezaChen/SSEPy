/-
  data_persistence/persistent_dict.py — `PickledDict` (in-memory dict, whole-dict pickle on sync/close,
  load on open, closed marker).  Nothing specific to `DBMDict` is modelled: within one open session its
  `BytesShelf(writeback=True)` cache makes it behave as a dict, so the same `step` describes it.
  A Python dict is an insertion-ordered association list with update-in-place.
-/
import SSEPyVerif.Model.Basic
namespace SSEPy.PDict

abbrev Assoc := List (Bytes × Bytes)

def lookup (k : Bytes) : Assoc → Option Bytes
  | [] => none
  | (k', v) :: rest => if k' = k then some v else lookup k rest

/-- `d[k] = v`: an existing key keeps its position, a new key goes to the end -/
def dinsert (k v : Bytes) : Assoc → Assoc
  | [] => [(k, v)]
  | (k', v') :: rest => if k' = k then (k, v) :: rest else (k', v') :: dinsert k v rest

def derase (k : Bytes) : Assoc → Assoc
  | [] => []
  | (k', v') :: rest => if k' = k then rest else (k', v') :: derase k rest

/-- a value handed in by the caller: byte strings are accepted, anything else is refused -/
inductive Val where
  | bytes (b : Bytes)
  | nonBytes
  deriving Repr, DecidableEq

structure PDict where
  data : Assoc
  closed : Bool
  /-- what the backing file holds: `none` until the first sync/close -/
  disk : Option Assoc

inductive Op where
  | set (k : Bytes) (v : Val)
  | get (k : Bytes)
  | del (k : Bytes)
  | contains (k : Bytes)
  | len | iter
  | getd (k : Bytes) (dflt : Option Bytes)
  | clear | sync | close
  deriving Repr

inductive Out where
  | unit
  | val (b : Bytes)
  | optVal (b : Option Bytes)
  | bool (b : Bool)
  | nat (n : Nat)
  | keys (l : List Bytes)
  | err (e : Err)
  deriving Repr, DecidableEq

/-- one operation of `PickledDict` -/
def step (d : PDict) (op : Op) : PDict × Out :=
  match op with
  | .set k v =>
    match v with
    | .nonBytes => (d, .err .typeError)               -- the type check comes first, even on a closed dict
    | .bytes b => if d.closed then (d, .err .valueError) else ({ d with data := dinsert k b d.data }, .unit)
  | .close => if d.closed then (d, .unit) else ({ d with closed := true, disk := some d.data }, .unit)
  | op =>
    if d.closed then (d, .err .valueError) else
    match op with
    | .get k => match lookup k d.data with
      | some v => (d, .val v)
      | none => (d, .err .keyError)
    | .del k => match lookup k d.data with
      | some _ => ({ d with data := derase k d.data }, .unit)
      | none => (d, .err .keyError)
    | .contains k => (d, .bool (lookup k d.data).isSome)
    | .len => (d, .nat d.data.length)
    | .iter => (d, .keys (d.data.map Prod.fst))
    | .getd k dflt => (d, .optVal ((lookup k d.data).or dflt))
    | .clear => ({ d with data := [] }, .unit)
    | .sync => ({ d with disk := some d.data }, .unit)
    | _ => (d, .unit)

/-- `PickledDict.create(path)` on a fresh path -/
def create : PDict := { data := [], closed := false, disk := none }

/-- `PickledDict.from_dict(d, path)`: copy, then sync -/
def fromDict (a : Assoc) : PDict := { data := a, closed := false, disk := some a }

/-- `PickledDict.open(path)` of a dictionary whose file was written by sync/close -/
def reopen (d : PDict) : Except Err PDict :=
  match d.disk with
  | some a => .ok { data := a, closed := false, disk := some a }
  | none => .error .other            -- empty file: pickle.load raises EOFError

/-- keys are unique (true of every Python dict) -/
def WF (a : Assoc) : Prop := (a.map Prod.fst).Nodup

end SSEPy.PDict
