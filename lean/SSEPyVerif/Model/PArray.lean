/-
  data_persistence/persistent_array.py (`SPFLBArray` over `SimpleMultiFilePersistentFixedLengthBytesArray`)
  and the mixin methods of data_persistence/interfaces.py — modelled at *file* level:
  chunk files are byte strings, `seek` past EOF + `write` zero-fills, reads at/after EOF are short.
-/
import SSEPyVerif.Model.Bytes
import SSEPyVerif.Model.PySeq
namespace SSEPy.PArray

abbrev File := Bytes

/-- `f.seek(off); f.read(n)` -/
def readAt (f : File) (off n : Nat) : Bytes := (f.drop off).take n

/-- `f.seek(off); f.write(c)`: a gap between EOF and `off` is filled with zeros -/
def writeAt (f : File) (off : Nat) (c : Bytes) : File :=
  (f ++ zeros (off - f.length)).take off ++ c ++ f.drop (off + c.length)

/-- the state of one array: its meta values, the chunk files on disk, and whether the handle is closed.
    The lazy file cache is not observable beyond the fact that touching a chunk creates its file. -/
structure PArr where
  sz : Nat          -- item_size
  len : Nat         -- array_len
  per : Nat         -- item_num_in_one_file
  files : Nat → Option File
  closed : Bool

/-- `_get_file_by_id`: open, creating an empty file when it does not exist -/
def touch (s : PArr) (fid : Nat) : PArr :=
  { s with files := fun k => if k = fid then some ((s.files fid).getD []) else s.files k }

def fileOf (s : PArr) (fid : Nat) : File := (s.files fid).getD []

/-- `_get_bytes_by_index(index)` for a non-negative index: read, right-pad a short read with zeros -/
def readIdx (s : PArr) (i : Nat) : Bytes :=
  let r := readAt (fileOf s (i / s.per)) (i % s.per * s.sz) s.sz
  r ++ zeros (s.sz - r.length)

/-- `_write_bytes_to_file(index, content)` after the length check: left-pad, seek, write -/
def writeIdx (s : PArr) (i : Nat) (content : Bytes) : PArr :=
  let c := zeros (s.sz - content.length) ++ content
  let fid := i / s.per
  { s with files := fun k => if k = fid then some (writeAt (fileOf s fid) (i % s.per * s.sz) c) else s.files k }

/-- a value handed to the array by the caller -/
inductive Item where
  | bytes (b : Bytes)
  | nonBytes            -- anything that is not a byte string (int, str, None, …)
  deriving Repr, DecidableEq

inductive Op where
  | get (i : Int)
  | getSlice (s e st : Option Int)
  | set (i : Int) (v : Item)
  | setSlice (s e st : Option Int) (vs : List Item)
  | del (i : Int)
  | delSlice (s e st : Option Int)
  | clear | iter | contains (v : Bytes) | len | close
  deriving Repr

inductive Out where
  | item (b : Bytes)
  | items (l : List Bytes)
  | unit
  | bool (b : Bool)
  | nat (n : Nat)
  | err (e : Err)
  deriving Repr, DecidableEq

/-- index check of `__getitem__` / `__setitem__`: `index >= len or index < -len` raises IndexError;
    otherwise the index is normalised with `% len` -/
def normIdx (len : Nat) (i : Int) : Option Nat :=
  if i ≥ (len : Int) ∨ i < -(len : Int) then none else some (i % (len : Int)).toNat

/-- slice assignment loop: returns the state, the positions visited so far with their old values
    (most recent first) and the failure, if any -/
def setSliceLoop (s : PArr) : List Nat → List Item → List (Nat × Bytes) → PArr × List (Nat × Bytes) × Option Err
  | [], _, olds => (s, olds, none)
  | i :: _, [], olds => (touch s (i / s.per), olds, none)   -- the old item is read, then `next()` raises StopIteration
  | i :: is, v :: vs, olds =>
    let s1 := touch s (i / s.per)
    let old := readIdx s1 i
    match v with
    | .nonBytes => (s1, (i, old) :: olds, some .typeError)
    | .bytes b =>
      if b.length > s.sz then (s1, (i, old) :: olds, some .valueError)
      else setSliceLoop (writeIdx s1 i b) is vs ((i, old) :: olds)

/-- the rollback `self[key] = old_items`: the same slice is assigned again with the saved values (in
    visiting order), which itself reads each old item before writing it and, when the range is longer
    than the saved list, reads one further item before `StopIteration` ends it -/
def rollback (s : PArr) (idx : List Nat) (olds : List (Nat × Bytes)) : PArr :=
  (setSliceLoop s idx (olds.reverse.map fun p => Item.bytes p.2) []).1

def zeroRange (s : PArr) (idx : List Nat) : PArr :=
  idx.foldl (fun st i => writeIdx (touch st (i / st.per)) i (zeros st.sz)) s

-- applied to the indices of a slice over the array, which lie in `[0, len)`: `Int.toNat` loses nothing
def natIdx (l : List Int) : List Nat := l.map Int.toNat

-- `get`/`getSlice` mirror `__getitem__` (int / slice), `set`/`setSlice` `__setitem__`, `iter` `__iter__`,
-- `len` `__len__`, `close` `close`; `del`/`delSlice`, `clear` and `contains` are the mixin methods of
-- interfaces.py built on them.  `per = 0` is outside the model: the constructor computes
-- `ceil(array_len / item_num_in_one_file)` and raises ZeroDivisionError.
def step (s : PArr) (op : Op) : PArr × Out :=
  if s.closed then
    match op with
    | .close => (s, .unit)
    | _ => (s, .err .valueError)
  else
  match op with
  | .get i =>
    match normIdx s.len i with
    | none => (s, .err .indexError)
    | some k => let s1 := touch s (k / s.per); (s1, .item (readIdx s1 k))
  | .getSlice a b c =>
    match sliceRange a b c s.len with
    | .error e => (s, .err e)
    | .ok idx =>
      let idx := natIdx idx
      let s1 := idx.foldl (fun st i => touch st (i / st.per)) s
      (s1, .items (idx.map (readIdx s1)))
  | .set i v =>
    match normIdx s.len i with
    | none => (s, .err .indexError)
    | some k =>
      match v with
      | .nonBytes => (s, .err .typeError)
      | .bytes b =>
        if b.length > s.sz then (s, .err .valueError)
        else (writeIdx (touch s (k / s.per)) k b, .unit)
  | .setSlice a b c vs =>
    match sliceRange a b c s.len with
    | .error e => (s, .err e)
    | .ok idx =>
      match setSliceLoop s (natIdx idx) vs [] with
      | (s1, _, none) => (s1, .unit)
      | (s1, olds, some e) => (rollback s1 (natIdx idx) olds, .err e)
  | .del i =>
    match normIdx s.len i with
    | none => (s, .err .indexError)
    | some k => (writeIdx (touch s (k / s.per)) k (zeros s.sz), .unit)
  | .delSlice a b c =>
    match sliceRange a b c s.len with
    | .error e => (s, .err e)
    | .ok idx => (zeroRange s (natIdx idx), .unit)
  | .clear => (zeroRange s (List.range s.len), .unit)
  | .iter =>
    let s1 := (List.range s.len).foldl (fun st i => touch st (i / st.per)) s
    (s1, .items ((List.range s.len).map (readIdx s1)))
  | .contains v =>
    -- `for x in self: if x == v: return True` stops at the first hit (later chunks stay untouched)
    let rec go (st : PArr) : List Nat → PArr × Bool
      | [] => (st, false)
      | i :: is => let st1 := touch st (i / st.per); if readIdx st1 i == v then (st1, true) else go st1 is
    let (s1, r) := go s (List.range s.len)
    (s1, .bool r)
  | .len => (s, .nat s.len)
  | .close => ({ s with closed := true }, .unit)

/-- `create(path, item_size, array_len, item_num_in_one_file)` on a fresh path -/
def create (sz len per : Nat) : PArr := { sz, len, per, files := fun _ => none, closed := false }

/-- `open(path)`: a new handle on the same files -/
def reopen (s : PArr) : PArr := { s with closed := false }

/-- number of chunk files: `ceil(array_len / item_num_in_one_file)` -/
def fileNum (s : PArr) : Nat := ceilDiv s.len s.per

/-! ### the reference model: a plain list of fixed-size items -/

structure Spec where
  sz : Nat
  items : List Bytes
  closed : Bool

def leftPad (sz : Nat) (b : Bytes) : Bytes := zeros (sz - b.length) ++ b

/-- element-wise slice assignment up to the shorter of slice and values -/
def assignAll (sz : Nat) (items : List Bytes) : List Nat → List Item → Except Err (List Bytes)
  | [], _ => .ok items
  | _, [] => .ok items
  | i :: is, v :: vs =>
    match v with
    | .nonBytes => .error .typeError
    | .bytes b => if b.length > sz then .error .valueError else assignAll sz (items.set i (leftPad sz b)) is vs

def specStep (s : Spec) (op : Op) : Spec × Out :=
  if s.closed then
    match op with
    | .close => (s, .unit)
    | _ => (s, .err .valueError)
  else
  let n := s.items.length
  match op with
  | .get i => match normIdx n i with
    | none => (s, .err .indexError)
    | some k => (s, .item (s.items.getD k []))
  | .getSlice a b c => match sliceRange a b c n with
    | .error e => (s, .err e)
    | .ok idx => (s, .items ((natIdx idx).map fun k => s.items.getD k []))
  | .set i v => match normIdx n i with
    | none => (s, .err .indexError)
    | some k => match v with
      | .nonBytes => (s, .err .typeError)
      | .bytes b => if b.length > s.sz then (s, .err .valueError)
                    else ({ s with items := s.items.set k (leftPad s.sz b) }, .unit)
  | .setSlice a b c vs => match sliceRange a b c n with
    | .error e => (s, .err e)
    | .ok idx => match assignAll s.sz s.items (natIdx idx) vs with
      | .error e => (s, .err e)                         -- a failing assignment changes nothing
      | .ok items => ({ s with items }, .unit)
  | .del i => match normIdx n i with
    | none => (s, .err .indexError)
    | some k => ({ s with items := s.items.set k (zeros s.sz) }, .unit)
  | .delSlice a b c => match sliceRange a b c n with
    | .error e => (s, .err e)
    | .ok idx => ({ s with items := (natIdx idx).foldl (fun l k => l.set k (zeros s.sz)) s.items }, .unit)
  | .clear => ({ s with items := s.items.map fun _ => zeros s.sz }, .unit)
  | .iter => (s, .items s.items)
  | .contains v => (s, .bool (s.items.contains v))
  | .len => (s, .nat n)
  | .close => ({ s with closed := true }, .unit)

/-- abstraction: what a full read of the array returns -/
def abs (s : PArr) : Spec :=
  { sz := s.sz, items := (List.range s.len).map (readIdx s), closed := s.closed }

end SSEPy.PArray
