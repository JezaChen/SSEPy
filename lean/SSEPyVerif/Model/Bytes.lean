/-
  toolkit/bytes_utils.py, toolkit/list_utils.py, toolkit/database_utils.py — line-for-line model.
-/
import SSEPyVerif.Model.Basic
namespace SSEPy

/-! ## bytes_utils -/

/-- `bytes_xor(a, b)`: `result = bytearray(a); for i, x in enumerate(b): result[i] ^= x`.
    Raises `IndexError` when `b` is longer than `a`; otherwise the result has the length of `a`
    (the tail of `a` beyond `len(b)` is kept). -/
def xorPrefix : Bytes → Bytes → Bytes
  | a, [] => a
  | [], _ :: _ => []
  | x :: a, y :: b => (x ^^^ y) :: xorPrefix a b

def bytesXor (a b : Bytes) : Except Err Bytes :=
  if b.length > a.length then .error .indexError else .ok (xorPrefix a b)

/-- big-endian digits of `x`, exactly `w` of them (the low `w` bytes; callers check the range). -/
def toBE : Nat → Nat → Bytes
  | 0, _ => []
  | w + 1, x => toBE w (x / 256) ++ [UInt8.ofNat (x % 256)]

/-- `int.from_bytes(b, 'big')`. -/
def fromBE (b : Bytes) : Nat := b.foldl (fun acc d => acc * 256 + d.toNat) 0

/-- `int_to_bytes(x, w)` for `x ≥ 0`, `w ≥ 0` -/
def intToBytesNat (x w : Nat) : Except Err Bytes :=
  if x ≥ 256 ^ w then .error .overflowError else .ok (toBE w x)

/-- minimal-width encoding: `int_to_bytes(x)` -/
def natToBytesMin (x : Nat) : Bytes := toBE ((bitLength x + 7) / 8) x

/-- `int_to_bytes(x, output_len=-1)`.
    `output_len == -1` selects the minimal width `(bit_length+7)//8`; a negative `x` or a value that
    does not fit raises `OverflowError`; any other negative `output_len` raises `ValueError`. -/
def intToBytes (x : Int) (outputLen : Int := -1) : Except Err Bytes :=
  if outputLen == -1 then
    -- (x.bit_length() + 7) // 8; a negative x cannot be converted (OverflowError)
    if x < 0 then .error .overflowError else .ok (natToBytesMin x.toNat)
  else if outputLen < 0 then .error .valueError
  else if x < 0 then .error .overflowError
  else intToBytesNat x.toNat outputLen.toNat

def intFromBytes (b : Bytes) : Nat := fromBE b

/-- `add_leading_zeros(x, n) = b'\0' * max(n - len(x), 0) + x`. -/
def addLeadingZeros (x : Bytes) (n : Int) : Bytes :=
  zeros (n - x.length).toNat ++ x

/-- Python `xs[a:b]` for `0 ≤ a`, `0 ≤ b` (clamped as CPython does). -/
def slice (xs : List α) (a b : Nat) : List α := (xs.take b).drop a

/-- `split_bytes_given_slice_len(x, lens)` for non-negative lengths:
    `for next_c in itertools.accumulate(lens): result.append(x[c:next_c]); c = next_c`. -/
def splitLoop (x : Bytes) : List Nat → Nat → List Bytes
  | [], _ => []
  | n :: rest, c => slice x c (c + n) :: splitLoop x rest (c + n)

def splitBytes (x : Bytes) (lens : List Nat) : Except Err (List Bytes) :=
  if x.length != lens.sum then .error .valueError else .ok (splitLoop x lens 0)

/-! ## list_utils.chunks and the identifier blocks of database_utils -/

/-- `chunks(lst, n)` for `n > 0` (`range(0, len, 0)` raises `ValueError`). -/
def chunksFuel : Nat → List α → Nat → List (List α)
  | 0, _, _ => []
  | fuel + 1, l, n => if l.isEmpty then [] else l.take n :: chunksFuel fuel (l.drop n) n

def chunks (l : List α) (n : Nat) : Except Err (List (List α)) :=
  if n == 0 then .error .valueError else .ok (chunksFuel l.length l n)

def padBlock (blk : Bytes) (bs : Nat) : Bytes :=
  if blk.length < bs then blk ++ zeros (bs - blk.length) else blk

/-- the packer on its natural domain (non-negative capacity, size and block size) -/
def partitionBlocksNat (ids : List Bytes) (cap size blockSize : Nat) : Except Err (List Bytes) :=
  let bs := if blockSize = 0 then cap * size else blockSize
  if bs < cap * size then .error .valueError
  else if cap = 0 then .error .valueError
  else .ok ((chunksFuel ids.length ids cap).map fun grp => padBlock grp.flatten bs)

/-- `partition_identifiers_to_blocks(ids, cap, size, block_size_bytes=0)` as a list (the generator is
    always consumed by its callers).  Integer arguments are Python ints: a negative capacity makes
    `range(0, n, cap)` empty, capacity 0 raises `ValueError` (range step 0) — but only when the
    generator is first advanced, which every caller does. -/
def partitionBlocks (ids : List Bytes) (cap : Int) (size : Int) (blockSize : Int := 0) :
    Except Err (List Bytes) :=
  if 0 ≤ cap ∧ 0 ≤ size ∧ 0 ≤ blockSize then
    partitionBlocksNat ids cap.toNat size.toNat blockSize.toNat
  else
    let bs : Int := if blockSize == 0 then cap * size else blockSize
    if bs < cap * size then .error .valueError
    else if cap == 0 then .error .valueError
    else if cap < 0 then .ok []          -- range(0, len, negative) is empty
    else
      -- cap > 0, so size < 0 or blockSize < 0: blocks are the joined groups, padded up to bs if bs > 0
      .ok ((chunksFuel ids.length ids cap.toNat).map fun grp => padBlock grp.flatten bs.toNat)

/-- `parse_identifiers_from_block_given_identifier_size(block, size)`:
    walk `range(0, len(block), size)`, stop at the first all-zero piece.
    `size == 0` raises `ValueError` (range step 0); a negative size gives an empty range. -/
def parseLoop : Nat → Bytes → Nat → List Bytes
  | 0, _, _ => []
  | fuel + 1, blk, size =>
    if blk.isEmpty then [] else
    let piece := blk.take size
    if allZero piece then [] else piece :: parseLoop fuel (blk.drop size) size

def parseBySizeNat (blk : Bytes) (size : Nat) : Except Err (List Bytes) :=
  if size = 0 then .error .valueError else .ok (parseLoop blk.length blk size)

def parseBySize (blk : Bytes) (size : Int) : Except Err (List Bytes) :=
  if size < 0 then .ok [] else parseBySizeNat blk size.toNat

/-- `parse_identifiers_from_block_given_entry_count_in_one_block(block, count)`:
    `size = len(block) // count` (ZeroDivisionError for count 0; floor division for negatives). -/
def parseByCountNat (blk : Bytes) (count : Nat) : Except Err (List Bytes) :=
  if count = 0 then .error .zeroDivision else parseBySizeNat blk (blk.length / count)

def parseByCount (blk : Bytes) (count : Int) : Except Err (List Bytes) :=
  if count < 0 then parseBySize blk (Int.fdiv blk.length count)
  else parseByCountNat blk count.toNat

/-! ## hex / BytesConverter -/

def hexDigit (n : Nat) : Char :=
  if n < 10 then Char.ofNat (48 + n) else Char.ofNat (87 + n)

/-- `bytes.hex()`. -/
def toHex (b : Bytes) : List Char :=
  b.flatMap fun x => [hexDigit (x.toNat / 16), hexDigit (x.toNat % 16)]

def hexVal (c : Char) : Option Nat :=
  if '0' ≤ c ∧ c ≤ '9' then some (c.toNat - 48)
  else if 'a' ≤ c ∧ c ≤ 'f' then some (c.toNat - 87)
  else if 'A' ≤ c ∧ c ≤ 'F' then some (c.toNat - 55)
  else none

/-- `bytes.fromhex(h)` restricted to strings without whitespace (the identifier strings of a JSON
    database); odd length or a non-hex digit raises `ValueError`. -/
def fromHex : List Char → Except Err Bytes
  | [] => .ok []
  | [_] => .error .valueError
  | a :: b :: rest =>
    match hexVal a, hexVal b with
    | some x, some y => do
      let tl ← fromHex rest
      .ok (UInt8.ofNat (x * 16 + y) :: tl)
    | _, _ => .error .valueError

def lowerHexChar (c : Char) : Char :=
  if 'A' ≤ c ∧ c ≤ 'F' then Char.ofNat (c.toNat + 32) else c

end SSEPy
