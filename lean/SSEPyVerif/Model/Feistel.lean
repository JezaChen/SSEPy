/-
  toolkit/symmetric_encryption/fpe.py (`BitwiseFFX`), toolkit/prp/bitwise_fpe_prp.py,
  toolkit/prp/luby_rackoff_prp.py, toolkit/prp/hmac_luby_rackoff_prp.py.
  The keyed digest (`hmac.new(key, msg, sha1)`) is a parameter.
-/
import SSEPyVerif.Model.Bits
import SSEPyVerif.Model.PHash
namespace SSEPy

/-- `struct.pack('I', n)`: 4 bytes, native (little-endian) order -/
def packI (n : Nat) : Bytes := (toBE 4 (n % 2 ^ 32)).reverse

/-- `struct.pack('I%sI' % len(s), i, *s)` -/
def ffxPre (i : Nat) (s : Bitset) : Bytes :=
  packI i ++ s.toBits.flatMap fun b => packI (if b then 1 else 0)

/-- the expansion loop of `BitwiseFFX.round` — the inner counter is never incremented, so the same
    digest `d` is appended until the result is long enough -/
def ffxRoundLoop (d : Bitset) (outLen : Nat) : Nat → Bitset → Except Err Bitset
  | 0, _ => .error .diverges
  | fuel + 1, result => do
    let result ← result.concat d
    if result.length ≥ outLen then .ok result else ffxRoundLoop d outLen fuel result

-- fuel `outLen + 1` suffices: every pass of the loop appends the digest, i.e. at least one bit
/-- `BitwiseFFX.round(key, i, s, output_len)`; `digestBytes` = `digest_size` -/
def ffxRound (hmac : Hmac) (digestBytes : Nat) (key : Bytes) (i : Nat) (s : Bitset) (outputLen : Nat) :
    Except Err Bitset := do
  let outLen := if outputLen == 0 then s.length else outputLen
  let dg := hmac key (ffxPre i s ++ packI 0)
  let d ← Bitset.mk' (fromBE dg) (digestBytes * 8)
  let result ← ffxRoundLoop d outLen (outLen + 1) ⟨0, 0⟩
  result.getHigherBits outLen

/-- round function type: round index, right half, requested length -/
abbrev RoundFn := Nat → Bitset → Nat → Except Err Bitset

/-- `for i in range(rounds): c = a ^ round(key, i, b, len(a)); a, b = b, c` -/
def ffxEncLoop (F : RoundFn) : List Nat → Bitset → Bitset → Except Err (Bitset × Bitset)
  | [], a, b => .ok (a, b)
  | i :: is, a, b => do
    let r ← F i b a.length
    ffxEncLoop F is b (a.xor r)

/-- `for i in range(rounds-1, -1, -1): b, c = a, b; a = c ^ round(key, i, b, len(c))` -/
def ffxDecLoop (F : RoundFn) : List Nat → Bitset → Bitset → Except Err (Bitset × Bitset)
  | [], a, b => .ok (a, b)
  | i :: is, a, b => do
    let r ← F i a b.length
    ffxDecLoop F is (b.xor r) a

def ffxEncrypt (F : RoundFn) (rounds : Nat) (v : Bitset) : Except Err Bitset := do
  let (a, b) ← v.halfNotPadding
  let (a, b) ← ffxEncLoop F (List.range rounds) a b
  a.concat b

def ffxDecrypt (F : RoundFn) (rounds : Nat) (v : Bitset) : Except Err Bitset := do
  let (a, b) ← v.halfNotPadding
  let (a, b) ← ffxDecLoop F (List.range rounds).reverse a b
  a.concat b

def DEFAULT_ROUNDS : Nat := 10

/-- `BitwiseFPEPRP(message_bit_length, key_bit_length).__call__(key: Bitset, message: Bitset)` -/
def bitwiseFpePrp (hmac : Hmac) (digestBytes : Nat) (msgBits keyBits : Int) (key msg : Bitset) : Except Err Bitset := do
  if (key.length : Int) != keyBits then throw .valueError
  if (msg.length : Int) != msgBits then throw .valueError
  let kb ← key.toBytes
  ffxEncrypt (ffxRound hmac digestBytes kb) DEFAULT_ROUNDS msg

/-! ### byte-oriented Luby–Rackoff -/

/-- the underlying PRF as seen by the PRP: its three declared lengths and its call -/
structure PrfView where
  keyLength : Int
  messageLength : Int
  outputLength : Int
  call : Bytes → Bytes → Except Err Bytes

structure LubyRackoff where
  messageLength : Int
  keyLength : Int
  prf : PrfView

/-- `LubyRackoffPRP.__init__` -/
def LubyRackoff.new (messageLength keyLength : Int) (prf : PrfView) : Except Err LubyRackoff :=
  if prf.keyLength * 3 != keyLength then .error .valueError
  else if prf.messageLength != prf.outputLength then .error .valueError
  else if prf.messageLength * 2 != messageLength then .error .valueError
  else .ok { messageLength, keyLength, prf }

/-- one Feistel step on byte halves: `(L, R) ↦ (R, L ⊕ F(k, R))` -/
def lrStep (prf : Bytes → Bytes → Except Err Bytes) (k : Bytes) (lr : Bytes × Bytes) : Except Err (Bytes × Bytes) := do
  let f ← prf k lr.2
  let nr ← bytesXor lr.1 f
  .ok (lr.2, nr)

/-- the three rounds `for i in range(3)` -/
def lr3 (prf : Bytes → Bytes → Except Err Bytes) (k0 k1 k2 : Bytes) (s0 : Bytes × Bytes) :
    Except Err (Bytes × Bytes) := do
  let s1 ← lrStep prf k0 s0
  let s2 ← lrStep prf k1 s1
  lrStep prf k2 s2

/-- split the message, derive `key_list = [key[i: i + kl//3] for i in range(0, kl, kl//3)]`, run the
    rounds, join -/
def lrCore (prf : Bytes → Bytes → Except Err Bytes) (key msg : Bytes) : Except Err Bytes := do
  let half := msg.length / 2
  let third := key.length / 3
  let keyAt (i : Nat) : Bytes := slice key (i * third) (i * third + third)
  let s3 ← lr3 prf (keyAt 0) (keyAt 1) (keyAt 2) (msg.take half, msg.drop half)
  .ok (s3.1 ++ s3.2)

/-- `LubyRackoffPRP.__call__` (lengths are non-negative after the checks; a zero `kl//3` makes the
    `range` step zero, which raises `ValueError`) -/
def LubyRackoff.call (p : LubyRackoff) (key msg : Bytes) : Except Err Bytes :=
  if (key.length : Int) != p.keyLength then .error .valueError
  else if (msg.length : Int) != p.messageLength then .error .valueError
  else if key.length / 3 == 0 then .error .valueError
  else lrCore p.prf.call key msg

/-- `HmacLubyRackoffPRP.__init__`: parity / divisibility checks, then an `HmacPRF` of half width -/
def hmacLubyRackoffNew (hmac : Hmac) (hashLen : Nat) (messageLength keyLength : Int) : Except Err LubyRackoff :=
  if Int.emod messageLength 2 != 0 then .error .valueError
  else if Int.emod keyLength 3 != 0 then .error .valueError
  else
    let prf := HmacPRF.new (Int.fdiv messageLength 2) (Int.fdiv keyLength 3) (Int.fdiv messageLength 2) hashLen
    LubyRackoff.new messageLength keyLength
      { keyLength := prf.keyLength, messageLength := prf.messageLength, outputLength := prf.outputLength,
        call := prf.call hmac }

end SSEPy
