/-
  toolkit/symmetric_encryption/aes.py (`AESxCBC`) and toolkit/symmetric_padding.py.
  The AES block function (`E`/`D : BlockFn`, i.e. AES-ECB on one 16-byte block) is a parameter;
  PKCS7, CBC chaining, the prepended IV and the three length contracts are modelled.
-/
import SSEPyVerif.Model.Bytes
namespace SSEPy

/-- key → 16-byte block → 16-byte block -/
abbrev BlockFn := Bytes → Bytes → Bytes

/-- `pkcs7_pad(message, 128)` -/
def pkcs7Pad (m : Bytes) : Bytes :=
  let p := 16 - m.length % 16
  m ++ List.replicate p (UInt8.ofNat p)

/-- `pkcs7_unpad(padded, 128)`: the unpadder's `finalize` needs exactly one buffered block (so the input
    is non-empty and block-aligned), a last byte `n` in 1..16 and `n` trailing bytes equal to `n`;
    anything else is `ValueError("Invalid padding bytes.")`. -/
def pkcs7Unpad (p : Bytes) : Except Err Bytes :=
  if p.length == 0 || p.length % 16 != 0 then .error .valueError else
  let n := (p.getLastD 0).toNat
  if n == 0 || n > 16 then .error .valueError
  else if (p.drop (p.length - n)).all (· == UInt8.ofNat n) then .ok (p.take (p.length - n))
  else .error .valueError

/-- split into 16-byte blocks -/
def blocks16 (x : Bytes) : List Bytes := chunksFuel x.length x 16

/-- CBC encryption of a list of blocks: `c_i = E_k(p_i ⊕ c_{i-1})`, `c_0 = iv` -/
def cbcEnc (E : BlockFn) (k : Bytes) : Bytes → List Bytes → List Bytes
  | _, [] => []
  | prev, p :: ps => let c := E k (xorPrefix p prev); c :: cbcEnc E k c ps

/-- CBC decryption: `p_i = D_k(c_i) ⊕ c_{i-1}` -/
def cbcDec (D : BlockFn) (k : Bytes) : Bytes → List Bytes → List Bytes
  | _, [] => []
  | prev, c :: cs => xorPrefix (D k c) prev :: cbcDec D k c cs

/-- `AESxCBC(key_length, cipher_length, message_length)`; -1 = unlimited -/
structure AESxCBC where
  keyLength : Int
  cipherLength : Int
  messageLength : Int
  deriving Repr

/-- the constructor's checks -/
def AESxCBC.new (keyLength : Int) (cipherLength : Int := -1) (messageLength : Int := -1) : Except Err AESxCBC :=
  if keyLength != 16 && keyLength != 24 && keyLength != 32 then .error .valueError
  else if cipherLength != -1 && Int.emod cipherLength 16 != 0 then .error .valueError
  else .ok { keyLength, cipherLength, messageLength }

/-- `Encrypt(key, message)` with the 16 random IV bytes made explicit -/
def AESxCBC.encrypt (s : AESxCBC) (E : BlockFn) (key iv msg : Bytes) : Except Err Bytes :=
  if s.messageLength != -1 && (msg.length : Int) != s.messageLength then .error .valueError
  else if (key.length : Int) != s.keyLength then .error .valueError
  else .ok (iv ++ (cbcEnc E key iv (blocks16 (pkcs7Pad msg))).flatten)

/-- `Decrypt(key, cipher_text)` -/
def AESxCBC.decrypt (s : AESxCBC) (D : BlockFn) (key ct : Bytes) : Except Err Bytes :=
  if s.cipherLength != -1 && (ct.length : Int) != s.cipherLength then .error .valueError
  else if (key.length : Int) != s.keyLength then .error .valueError
  else
    let iv := ct.take 16
    let body := ct.drop 16
    if iv.length != 16 then .error .valueError              -- modes.CBC: "Invalid IV size"
    else if body.length % 16 != 0 then .error .valueError   -- decryptor.finalize(): not a multiple of the block length
    else pkcs7Unpad (cbcDec D key iv (blocks16 body)).flatten

end SSEPy
