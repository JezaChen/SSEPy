/-
  frontend/server/services/services_manager.py — several connections on ONE service id, as a labelled
  transition system.  asyncio runs one task at a time and switches only at `await`, so the steps below
  are exactly the atomic blocks between the awaits of `create_service` and
  `clean_service_when_close_connection` (whose order is extracted by the translator and compared with
  `ServerIR.expectedProgram.mgrCreate / mgrCleanup`):

    create_service:  Service(sid, ws)  ·  waiting.append  ·  [lock]  wait_for(turn)  pop  refresh  register  [unlock]
                     ·  serve requests  ·
    cleanup:         await closed  ·  [lock]  sleep  close_service  del  notify_all  [unlock]

  The scheduler (the event loop, the clients, the cleanup delay) chooses among the enabled actions.
-/
import SSEPyVerif.Model.ServerIR
namespace SSEPy.Manager
open SSEPy.ServerIR

inductive Phase where
  | queued      -- constructed and appended to the waiting list; has not taken the registry lock yet
  | waiting     -- inside `wait_for`: told to wait for the earlier connections
  | serving     -- registered: its requests are processed
  | finished    -- the socket is closed and the serve loop has ended; its cleanup has not taken the lock yet
  | cleaning    -- its cleanup holds the lock (the delay)
  | done
  deriving DecidableEq, Repr

structure CRec where
  obj : Conn                    -- the `Service` object (its snapshot of the durable state)
  phase : Phase := .queued
  clientOpen : Bool := true     -- the client has not closed the socket
  dead : Bool := false          -- the server closed it (a handler raised)
  inbox : List Msg := []        -- frames received but not yet processed
  outs : List Out := []         -- what was sent to this client, most recent first
  deriving Repr

structure MState where
  disk : Disk := {}
  conns : List CRec := []       -- index = opening order
  registry : Option Nat := none
  queue : List Nat := []        -- `_waiting_dict[sid]`
  lockHeld : Bool := false      -- the condition's lock is held across an await only by a cleanup (its delay)
  deriving Repr

inductive Act where
  | openConn                    -- a new connection: `Service(sid, ws)` + `waiting.append`
  | enter (j : Nat)             -- connection j takes the lock for the first time
  | wake (j : Nat)              -- connection j, woken by `notify_all`, finds its turn has come
  | send (j : Nat) (m : Msg)    -- the client of j sends a frame
  | deliver (j : Nat)           -- the serve loop of j processes its next frame
  | clientClose (j : Nat)
  | finish (j : Nat)            -- the serve loop of j ends
  | cleanupStart (j : Nat)
  | cleanupEnd (j : Nat)
  deriving DecidableEq, Repr

def setConn (s : MState) (j : Nat) (c : CRec) : MState := { s with conns := s.conns.set j c }

/-- `refresh_service_state()` + register, for the connection whose turn it is.  The source reloads state and
    configuration into the existing object; the model builds a new object with the whole constructor, drops its echo
    and keeps the old object if the constructor fails.  The difference cannot be seen: before a connection is served
    it has handled no request, so what a reload always keeps (`edbCache`, `schemeLoaded`) is unset, and on every disk a
    reachable state has the constructor succeeds (`construct_shape`), so the fallback is never taken. -/
def registerConn (p : Program) (s : MState) (j : Nat) (c : CRec) : MState :=
  let obj' := match construct p s.disk with
    | some (o, _) => o
    | none => c.obj
  { setConn s j { c with obj := obj', phase := .serving } with registry := some j, queue := s.queue.tail }

/-- one step; `none` = the action is not enabled in this state -/
def step (p : Program) (s : MState) : Act → Option MState
  | .openConn =>
    match construct p s.disk with
    | some (o, outs) =>
      some { s with conns := s.conns ++ [{ obj := o, outs := outs }], queue := s.queue ++ [s.conns.length] }
    | none =>
      -- the constructor raised: the connection is gone before anything is registered
      some { s with conns := s.conns ++ [{ obj := {}, phase := .done, clientOpen := false, dead := true, outs := [.closed] }] }
  | .enter j =>
    match s.conns[j]? with
    | some c =>
      if c.phase = .queued ∧ s.lockHeld = false then
        if s.registry.isSome ∨ s.queue.head? ≠ some j then
          some (setConn s j { c with phase := .waiting, outs := if c.clientOpen then .control :: c.outs else c.outs })
        else some (registerConn p s j c)
      else none
    | none => none
  | .wake j =>
    match s.conns[j]? with
    | some c =>
      if c.phase = .waiting ∧ s.lockHeld = false ∧ s.registry = none ∧ s.queue.head? = some j then
        some (registerConn p s j c)
      else none
    | none => none
  | .send j m =>
    match s.conns[j]? with
    | some c => if c.clientOpen ∧ c.dead = false then some (setConn s j { c with inbox := c.inbox ++ [m] }) else none
    | none => none
  | .deliver j =>
    match s.conns[j]? with
    | some c =>
      if c.phase = .serving ∧ c.dead = false then
        match c.inbox with
        | [] => none
        | m :: rest =>
          let r := handleMsg p s.disk c.obj m
          -- replies to a client that has already closed its socket are never seen
          some { setConn s j { c with obj := r.2.1, inbox := if r.2.2.1 then rest else [], dead := !r.2.2.1,
                                       outs := if c.clientOpen then r.2.2.2.1.reverse ++ c.outs else c.outs }
                 with disk := r.1 }
      else none
    | none => none
  | .clientClose j =>
    match s.conns[j]? with
    | some c => if c.clientOpen then some (setConn s j { c with clientOpen := false }) else none
    | none => none
  | .finish j =>
    match s.conns[j]? with
    | some c =>
      if c.phase = .serving ∧ (c.dead ∨ (c.clientOpen = false ∧ c.inbox = [])) then
        some (setConn s j { c with phase := .finished })
      else none
    | none => none
  | .cleanupStart j =>
    match s.conns[j]? with
    | some c =>
      if c.phase = .finished ∧ s.lockHeld = false then
        some { setConn s j { c with phase := .cleaning } with lockHeld := true }
      else none
    | none => none
  | .cleanupEnd j =>
    match s.conns[j]? with
    | some c =>
      if c.phase = .cleaning then
        -- `self._service_dict[sid].close_service()`: the REGISTERED object's snapshot is written back
        let d := match s.registry.bind (fun r => s.conns[r]?) with
          | some rc => closeConn p s.disk rc.obj
          | none => s.disk
        some { setConn s j { c with phase := .done } with disk := d, registry := none, lockHeld := false }
      else none
    | none => none

/-- run a schedule, skipping actions that are not enabled -/
def run (p : Program) (s : MState) : List Act → MState
  | [] => s
  | a :: as => run p ((step p s a).getD s) as

/-- a state reachable from the empty one -/
inductive Reachable (p : Program) : MState → Prop where
  | init : Reachable p {}
  | step (s s' : MState) (a : Act) : Reachable p s → step p s a = some s' → Reachable p s'

end SSEPy.Manager
