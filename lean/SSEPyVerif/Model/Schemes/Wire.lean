/-
  schemes/**/structures.py — the wire formats of keys and tokens that are plain concatenations:
  `serialize` joins the fields; `deserialize` checks the total length against the configuration and cuts at the
  configured widths; and the envelope of an encrypted database around its pickled parts.  (What is pickled — the parts of an
  encrypted database, results, the tokens of SSE-2 and DP17 — is not modelled.)
-/
import SSEPyVerif.Model.Schemes.Chain
import SSEPyVerif.Model.Schemes.PiPtr
import SSEPyVerif.Model.Schemes.Levels
import SSEPyVerif.Model.Schemes.SSE1
import SSEPyVerif.Model.Schemes.DP17
import SSEPyVerif.Model.Schemes.Pi2Lev
namespace SSEPy.Sch

def wireSer (parts : List Bytes) : Bytes := parts.flatten

/-- length check + cut -/
def wireDeser (widths : List Nat) (x : Bytes) : Except Err (List Bytes) := splitBytes x widths

structure WireFmt where
  key : List Nat
  token : Option (List Nat)       -- `none`: pickled

def ChainCfg.wire (c : ChainCfg) : WireFmt := { key := [c.lambda.toNat], token := some [c.lambda.toNat, c.lambda.toNat] }
def PiPtrCfg.wire (c : PiPtrCfg) : WireFmt := { key := [c.lambda.toNat], token := some [c.lambda.toNat, c.lambda.toNat] }
def Pi2LevCfg.wire (c : Pi2LevCfg) : WireFmt := { key := [c.lambda.toNat], token := some [c.lambda.toNat, c.lambda.toNat] }
def CT14Cfg.wire (c : CT14Cfg) : WireFmt := { key := [c.k.toNat], token := some [c.k.toNat, c.kPrime.toNat] }
def ANSSCfg.wire (c : ANSSCfg) : WireFmt :=
  { key := [c.lambda.toNat], token := some [c.l.toNat, c.k.toNat, c.lPrime.toNat, c.kPrime.toNat] }
def SSE1Cfg.wire (c : SSE1Cfg) : WireFmt :=
  { key := List.replicate 4 c.k.toNat, token := some [c.l.toNat, c.k.toNat + c.log2sBytes] }
def SSE2Cfg.wire (c : SSE2Cfg) : WireFmt := { key := [c.k.toNat, c.k.toNat], token := none }
def DP17Cfg.wire (c : DP17Cfg) : WireFmt := { key := List.replicate 3 c.lambda.toNat, token := none }


/-! the configuration fields the wire formats read, by the names the source uses (`config.param_*`) — the valuation at which
    the layouts extracted from `structures.py` (`Generated/WireLayout.lean`) are evaluated -/
def ChainCfg.field (c : ChainCfg) : String → Int
  | "param_lambda" => c.lambda | _ => 0
def PiPtrCfg.field (c : PiPtrCfg) : String → Int
  | "param_lambda" => c.lambda | _ => 0
def Pi2LevCfg.field (c : Pi2LevCfg) : String → Int
  | "param_lambda" => c.lambda | _ => 0
def CT14Cfg.field (c : CT14Cfg) : String → Int
  | "param_k" => c.k | "param_k_prime" => c.kPrime | "param_l" => c.l | _ => 0
def ANSSCfg.field (c : ANSSCfg) : String → Int
  | "param_lambda" => c.lambda | "param_k" => c.k | "param_k_prime" => c.kPrime | "param_l" => c.l | "param_l_prime" => c.lPrime | _ => 0
def SSE1Cfg.field (c : SSE1Cfg) : String → Int
  | "param_k" => c.k | "param_l" => c.l | "param_log2_s_bytes" => (c.log2sBytes : Int) | _ => 0
def SSE2Cfg.field (c : SSE2Cfg) : String → Int
  | "param_k" => c.k | _ => 0
def DP17Cfg.field (c : DP17Cfg) : String → Int
  | "param_lambda" => c.lambda | _ => 0


/-! the envelope of an encrypted database: `HEADER ‖ pickle.dumps(parts)`; `deserialize` refuses another header and unpickles the
    rest.  `pickle` is an abstract codec (`dumps`, `loads`); what is modelled is the envelope around it. -/
def edbSer (hdr payload : Bytes) : Bytes := hdr ++ payload

def edbDeser (hdr x : Bytes) : Except Err Bytes :=
  if x.take hdr.length == hdr then .ok (x.drop hdr.length) else .error .valueError

end SSEPy.Sch
