/-
  schemes/CT14/Pi and schemes/ANSS16/Scheme3 (config.py, construction.py): level tables.

  Both pad the database with dummy keywords up to N = 2^t postings and keep one hash table per level.
  CT14: every list is cut greedily into power-of-two chunks, chunk of size 2^j goes to level j under the label
  `F'(Kw0, j)`.  ANSS16: every list is padded to 2^p entries and stored whole at level p; a second table HT(S) holds
  the encrypted true length.
-/
import SSEPyVerif.Model.Schemes.Common
namespace SSEPy.Sch

/-- `dict[k] = v` on the (insertion-ordered) database copy -/
def dbInsert (db : DB) (k : Bytes) (v : List Bytes) : DB :=
  match db with
  | [] => [(k, v)]
  | (k', v') :: rest => if k' = k then (k', v) :: rest else (k', v') :: dbInsert rest k v

/-- the padding loop shared by CT14 and ANSS16:
    `while N < 2**t: kw = urandom(32); n = randint(1, 2**t - N); ids = [urandom(idsize) for _ in range(n)]; db[kw] = ids; N += n` -/
def padLoop (idSize : Nat) (cap : Nat) : Nat → DB → Nat → Tape → Except Err (DB × Tape)
  | 0, _, _, _ => .error .diverges
  | fuel + 1, db, N, t =>
    if N < cap then do
      let (kw, t1) ← takeBytes 32 t
      let (n, t2) ← takeNat t1
      if n < 1 ∨ n > cap - N then throw .miss          -- not a value `randint(1, cap - N)` can return
      let (ids, t3) ← takeBytesN idSize n t2
      padLoop idSize cap fuel (dbInsert db kw ids) (N + n) t3
    else .ok (db, t)

/-- the 32-byte draws of a tape (the dummy keywords of the padding loop are among them) -/
def draws32 (t : Tape) : List Bytes :=
  t.filterMap fun d => match d with
    | .bytes b => if b.length = 32 then some b else none
    | _ => none

/-- `[ske.Encrypt(key, x) for x in xs]`; the callers join it (`cs.flatten`) -/
def encAll (ske : AESxCBC) (lv : Leaves) (key : Bytes) : List Bytes → Tape → Except Err (List Bytes × Tape)
  | [], t => .ok ([], t)
  | x :: xs, t => do
    let (c, t1) ← skeEncrypt ske lv key x t
    let (cs, t2) ← encAll ske lv key xs t1
    pure (c :: cs, t2)

/-- `k` filler pairs `(urandom(a), urandom(b))` -/
def fillers (a b : Nat) : Nat → Tape → Except Err (List (Bytes × Bytes) × Tape)
  | 0, t => .ok ([], t)
  | k + 1, t => do
    let (x, t1) ← takeBytes a t
    let (y, t2) ← takeBytes b t1
    let (ps, t3) ← fillers a b k t2
    pure ((x, y) :: ps, t3)

def decAll (ske : AESxCBC) (lv : Leaves) (key : Bytes) : List Bytes → Except Err (List Bytes)
  | [] => .ok []
  | c :: cs => do
    let p ← ske.decrypt lv.D key c
    let ps ← decAll ske lv key cs
    pure (p :: ps)

/-- append `x` to the `j`-th list -/
def pushAt (ls : List (List α)) (j : Nat) (x : α) : Except Err (List (List α)) :=
  match ls[j]? with
  | none => .error .indexError
  | some l => .ok (ls.set j (l ++ [x]))

/-! ## CT14 -/

structure CT14Cfg where
  k : Int
  kPrime : Int
  l : Int
  idSize : Int
  prfF : HmacPRF
  prfFPrime : HmacPRF
  ske : AESxCBC

def CT14.cfgBuild (raw : RawCfg) : Except Err CT14Cfg := do
  checkParamPositive raw
  checkParamExist ["param_k", "param_k_prime", "param_l", "param_identifier_size", "prf_f", "prf_f_prime", "ske"] raw
  let k ← getInt raw "param_k"
  let kp ← getInt raw "param_k_prime"
  let l ← getInt raw "param_l"
  let ids ← getInt raw "param_identifier_size"
  if !isHmacPrfName (getName raw "prf_f") then throw .valueError
  if !isHmacPrfName (getName raw "prf_f_prime") then throw .valueError
  if !isAesCbcName (getName raw "ske") then throw .valueError
  let ske ← AESxCBC.new kp
  pure { k := k, kPrime := kp, l := l, idSize := ids,
         prfF := HmacPRF.new (k + kp) k LENGTH_UNLIMITED 20,
         prfFPrime := HmacPRF.new l k LENGTH_UNLIMITED 20, ske := ske }

namespace CT14
variable (cfg : CT14Cfg) (lv : Leaves)

def keyGen (t : Tape) : Except Err (Bytes × Tape) :=
  if cfg.k < 0 then .error .valueError else takeBytes cfg.k.toNat t

/-- `_Trap`: `F(K, w)` split at `param_k` -/
def token (K w : Bytes) : Except Err (Bytes × Bytes) := do
  let x ← cfg.prfF.call lv.hmac K w
  pure (x.take cfg.k.toNat, x.drop cfg.k.toNat)

/-- the chunk loop of one keyword: `for j in range(int(log2(len)), -1, -1)`; `c` = identifiers already placed -/
def chunkLoop (Kw0 Kw1 : Bytes) (ids : List Bytes) :
    Nat → Nat → List (List (Bytes × Bytes)) → Tape → Except Err (List (List (Bytes × Bytes)) × Tape)
  | 0, _, Ls, t => .ok (Ls, t)
  | j1 + 1, c, Ls, t =>
    let j := j1
    if 2 ^ j > ids.length - c then chunkLoop Kw0 Kw1 ids j1 c Ls t
    else do
      let (cs, t1) ← encAll cfg.ske lv Kw1 ((ids.drop c).take (2 ^ j)) t
      let l ← cfg.prfFPrime.call lv.hmac Kw0 (natToBytesMin j)
      let Ls' ← pushAt Ls j (l, cs.flatten)
      chunkLoop Kw0 Kw1 ids j1 (c + 2 ^ j) Ls' t1

def encDb (K : Bytes) : DB → List (List (Bytes × Bytes)) → Tape → Except Err (List (List (Bytes × Bytes)) × Tape)
  | [], Ls, t => .ok (Ls, t)
  | (w, ids) :: rest, Ls, t => do
    let (Kw0, Kw1) ← token cfg lv K w
    if ids.length = 0 then throw .valueError           -- math.log2(0)
    let (Ls1, t1) ← chunkLoop cfg lv Kw0 Kw1 ids (Nat.log2 ids.length + 1) 0 Ls t
    encDb K rest Ls1 t1

/-- `len(ske.Encrypt(zeros(k'), zeros(idsize)))` — a real call, it draws an IV -/
def cipherLen (ske : AESxCBC) (lv : Leaves) (keyLen idSize : Int) (t : Tape) : Except Err (Nat × Tape) := do
  let (c, t1) ← skeEncrypt ske lv (zeros keyLen.toNat) (zeros idSize.toNat) t
  pure (c.length, t1)

/-- pad level `i` to `2^(t-i)` entries -/
def padLevels (tt : Nat) : Nat → List (List (Bytes × Bytes)) → Tape → Except Err (List (List (Bytes × Bytes)) × Tape)
  | _, [], t => .ok ([], t)
  | i, L :: rest, t => do
    let (clen, t1) ← cipherLen cfg.ske lv cfg.kPrime cfg.idSize t
    let (fs, t2) ← fillers cfg.l.toNat (2 ^ i * clen) (2 ^ (tt - i) - L.length) t1
    let (more, t3) ← padLevels tt (i + 1) rest t2
    pure ((L ++ fs) :: more, t3)

/-- the padded level lists of `_Enc`, before they are turned into hash tables -/
def setupLists (K : Bytes) (db : DB) (t : Tape) : Except Err (List (List (Bytes × Bytes)) × Tape) := do
  let N := db.total
  if N = 0 then throw .valueError                       -- math.log2(0)
  let tt := clog2 N
  let (pdb, t1) ← padLoop cfg.idSize.toNat (2 ^ tt) (2 ^ tt + 1) db N t
  let (Ls, t2) ← encDb cfg lv K pdb (List.replicate (tt + 1) []) t1
  padLevels cfg lv tt 0 Ls t2

def setup (K : Bytes) (db : DB) (t : Tape) : Except Err (List Table × Tape) := do
  let (TL, t') ← setupLists cfg lv K db t
  pure (TL.map buildTable, t')

/-- `_Search`: levels from the top down -/
def searchLevels (K0 K1 : Bytes) (HT : List Table) : Nat → Except Err (List Bytes)
  | 0 => .ok []
  | i1 + 1 => do
    let i := i1
    let l ← cfg.prfFPrime.call lv.hmac K0 (natToBytesMin i)
    let here ← match (HT[i]?).bind (·.get l) with
      | none => pure []
      | some d => do
        let cs ← parseByCount d (2 ^ i : Nat)
        decAll cfg.ske lv K1 cs
    let lower ← searchLevels K0 K1 HT i1
    pure (here ++ lower)

def search (HT : List Table) (tk : Bytes × Bytes) : Except Err (List Bytes) :=
  searchLevels cfg lv tk.1 tk.2 HT HT.length

/-! the hypotheses of the CT14 theorems as a computation on this run -/

def nodupL (l : List Bytes) : Bool :=
  match l with
  | [] => true
  | a :: as => !as.contains a && nodupL as

def hypsB (K : Bytes) (db : DB) (t : Tape) (absent : List Bytes) : Bool :=
  (t.all fun d => match d with | .bytes b => !(b.length == 16 && allZero b) | _ => true) &&
  -- C05 (`CT14.shape`): identifiers of the configured size; no dummy keyword repeats a keyword or another dummy
  db.all (fun p => p.2.all fun x => x.length == cfg.idSize.toNat) &&
  nodupL (db.map (·.1) ++ draws32 t) &&
  (match padLoop cfg.idSize.toNat (2 ^ clog2 db.total) (2 ^ clog2 db.total + 1) db db.total t with
   | .ok (pdb, _) => db.all (fun p => pdb.contains p)
   | .error _ => false) &&
  (match setupLists cfg lv K db t with
   | .ok (TL, _) =>
     TL.all (fun l => nodupL (l.map (·.1))) &&
     (db.map (·.1) ++ absent).all (fun w =>
       let n := if absent.contains w then 0 else (db.lookup w).getD [] |>.length
       match token cfg lv K w with
       | .ok (Kw0, _) => (List.range TL.length).all (fun j =>
           if n % 2 ^ (j + 1) < 2 ^ j then
             match cfg.prfFPrime.call lv.hmac Kw0 (natToBytesMin j) with
             | .ok l => !((TL[j]?).getD [] |>.map (·.1)).contains l
             | .error _ => false
           else true)
       | .error _ => false)
   | .error _ => false)

end CT14

/-! ## ANSS16 Scheme 3 -/

structure ANSSCfg where
  lambda : Int
  k : Int
  kPrime : Int
  l : Int
  lPrime : Int
  idSize : Int
  prf : HmacPRF
  ske : AESxCBC

def ANSS16.cfgBuild (raw : RawCfg) : Except Err ANSSCfg := do
  checkParamPositive raw
  checkParamExist ["param_lambda", "param_k", "param_k_prime", "param_l", "param_l_prime", "param_identifier_size", "prf", "ske"] raw
  let lam ← getInt raw "param_lambda"
  let k ← getInt raw "param_k"
  let kp ← getInt raw "param_k_prime"
  let l ← getInt raw "param_l"
  let lp ← getInt raw "param_l_prime"
  let ids ← getInt raw "param_identifier_size"
  if !isHmacPrfName (getName raw "prf") then throw .valueError
  if !isAesCbcName (getName raw "ske") then throw .valueError
  let ske ← AESxCBC.new k
  pure { lambda := lam, k := k, kPrime := kp, l := l, lPrime := lp, idSize := ids,
         prf := HmacPRF.new (k + kp + l + lp) LENGTH_UNLIMITED LENGTH_UNLIMITED 20, ske := ske }

structure ANSSEDB where
  HTS : Table
  HTL : List Table
  deriving Repr

structure ANSSToken where
  li : Bytes
  Ki : Bytes
  liP : Bytes
  KiP : Bytes
  deriving Repr, DecidableEq

namespace ANSS16
variable (cfg : ANSSCfg) (lv : Leaves)

def keyGen (t : Tape) : Except Err (Bytes × Tape) :=
  if cfg.lambda < 0 then .error .valueError else takeBytes cfg.lambda.toNat t

/-- `_Trap`: `prf(K, w)` split into `[l, k, l', k']` -/
def token (K w : Bytes) : Except Err ANSSToken := do
  let x ← cfg.prf.call lv.hmac K w
  match ← splitBytes x [cfg.l.toNat, cfg.k.toNat, cfg.lPrime.toNat, cfg.kPrime.toNat] with
  | [a, b, c, d] => pure { li := a, Ki := b, liP := c, KiP := d }
  | _ => throw .valueError

def encDb (K : Bytes) (niSize : Nat) :
    DB → List (List (Bytes × Bytes)) → List (Bytes × Bytes) → Tape →
    Except Err (List (List (Bytes × Bytes)) × List (Bytes × Bytes) × Tape)
  | [], Ts, S, t => .ok (Ts, S, t)
  | (w, ids) :: rest, Ts, S, t => do
    let ni := ids.length
    if ni = 0 then throw .valueError                  -- math.log2(0)
    let p := clog2 ni
    let (dummies, t1) ← takeBytesN cfg.idSize.toNat (2 ^ p - ni) t
    let tk ← token cfg lv K w
    let (cs, t2) ← encAll cfg.ske lv tk.Ki (ids ++ dummies) t1
    let nb ← intToBytesNat ni niSize                   -- OverflowError when the length does not fit
    let (niP, t3) ← skeEncrypt cfg.ske lv tk.KiP nb t2
    let Ts' ← pushAt Ts p (tk.li, cs.flatten)
    encDb K niSize rest Ts' (S ++ [(tk.liP, niP)]) t3

/-- pad level `i` to `2^(t+1-i)` entries -/
def padLevels (tt : Nat) : Nat → List (List (Bytes × Bytes)) → Tape → Except Err (List (List (Bytes × Bytes)) × Tape)
  | _, [], t => .ok ([], t)
  | i, L :: rest, t => do
    let (clen, t1) ← CT14.cipherLen cfg.ske lv cfg.kPrime cfg.idSize t
    let (fs, t2) ← fillers cfg.l.toNat (2 ^ i * clen) (2 ^ (tt + 1 - i) - L.length) t1
    let (more, t3) ← padLevels tt (i + 1) rest t2
    pure ((L ++ fs) :: more, t3)

/-- the pair lists of `_Enc`, before they are turned into hash tables: (S with its padding, the padded level lists) -/
def setupLists (K : Bytes) (db : DB) (t : Tape) :
    Except Err (List (Bytes × Bytes) × List (List (Bytes × Bytes)) × Tape) := do
  let N := db.total
  if N = 0 then throw .valueError
  let tt := clog2 N
  let (pdb, t1) ← padLoop cfg.idSize.toNat (2 ^ tt) (2 ^ tt + 1) db N t
  let niSize := ceilDiv (tt + 1) 8
  let (Ts, S, t2) ← encDb cfg lv K niSize pdb (List.replicate (tt + 1) []) [] t1
  let (Ts', t3) ← padLevels cfg lv tt 0 Ts t2
  let (nlen, t4) ← CT14.cipherLen cfg.ske lv cfg.kPrime niSize t3
  let (fs, t5) ← fillers cfg.lPrime.toNat nlen (2 ^ tt - S.length) t4
  pure (S ++ fs, Ts', t5)

def setup (K : Bytes) (db : DB) (t : Tape) : Except Err (ANSSEDB × Tape) := do
  let (SL, TL, t') ← setupLists cfg lv K db t
  pure ({ HTS := buildTable SL, HTL := TL.map buildTable }, t')

def search (edb : ANSSEDB) (tk : ANSSToken) : Except Err (List Bytes) :=
  match edb.HTS.get tk.liP with
  | none => .ok []
  | some niP => do
    let nb ← cfg.ske.decrypt lv.D tk.KiP niP
    let ni := intFromBytes nb
    if ni = 0 then throw .valueError                  -- math.log2(0)
    let p := clog2 ni
    if p ≥ edb.HTL.length then pure [] else
    match (edb.HTL[p]?).bind (·.get tk.li) with
    | none => pure []
    | some d => do
      let cs ← parseByCount d (2 ^ p : Nat)
      decAll cfg.ske lv tk.Ki (cs.take ni)

/-! the hypotheses of the ANSS16 theorems as a computation on this run -/

def nodupBy (l : List Bytes) : Bool :=
  match l with
  | [] => true
  | a :: as => !as.contains a && nodupBy as

def goodTapeB (t : Tape) : Bool :=
  t.all fun d => match d with
    | .bytes b => !(b.length == 16 && allZero b)
    | _ => true

def hypsB (K : Bytes) (db : DB) (t : Tape) (absent : List Bytes) : Bool :=
  goodTapeB t &&
  -- C05 (`ANSS16.shape`): identifiers of the configured size; no dummy keyword repeats a keyword or another dummy
  db.all (fun p => p.2.all fun x => x.length == cfg.idSize.toNat) &&
  nodupBy (db.map (·.1) ++ draws32 t) &&
  (match padLoop cfg.idSize.toNat (2 ^ clog2 db.total) (2 ^ clog2 db.total + 1) db db.total t with
   | .ok (pdb, _) => db.all (fun p => pdb.contains p)
   | .error _ => false) &&
  (match setupLists cfg lv K db t with
   | .ok (SL, TL, _) =>
     nodupBy (SL.map (·.1)) && TL.all (fun l => nodupBy (l.map (·.1))) &&
     absent.all (fun w => match token cfg lv K w with
       | .ok tk => !(SL.map (·.1)).contains tk.liP
       | .error _ => false)
   | .error _ => false)

end ANSS16
end SSEPy.Sch
