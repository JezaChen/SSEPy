/-
  schemes/CJJ14/PiBas and schemes/CJJ14/PiPack (config.py, construction.py): the "counter chain".

  For every keyword: `K1 = F(K, 1‖w)`, `K2 = F(K, 2‖w)`; the posting list is cut into chunks (PiBas: one
  identifier per chunk; PiPack: blocks of `param_B` identifiers, zero padded); chunk `c` is stored under the
  label `F(K1, int_to_bytes(c))` as `Enc(K2, chunk)`.  Search probes c = 0, 1, 2, … until a label is missing.
-/
import SSEPyVerif.Model.Schemes.Common
namespace SSEPy.Sch

structure ChainCfg where
  lambda : Int                                     -- `param_lambda`
  prfF : HmacPRF
  ske : AESxCBC
  /-- posting list ↦ plaintext chunks -/
  pack : List Bytes → Except Err (List Bytes)
  /-- decrypted chunk ↦ identifiers -/
  unpack : Bytes → Except Err (List Bytes)

/-- `SSEConfig.__init__` + `_parse_config` of PiBas -/
def PiBas.cfgBuild (raw : RawCfg) : Except Err ChainCfg := do
  checkParamPositive raw
  checkParamExist ["param_lambda", "prf_f_output_length", "prf_f", "ske"] raw
  let lam ← getInt raw "param_lambda"
  let out ← getInt raw "prf_f_output_length"
  if !isHmacPrfName (getName raw "prf_f") then throw .valueError
  if !isAesCbcName (getName raw "ske") then throw .valueError
  let ske ← AESxCBC.new lam
  pure { lambda := lam, prfF := HmacPRF.new out lam LENGTH_UNLIMITED 20, ske := ske,
         pack := fun ids => .ok ids, unpack := fun p => .ok [p] }

/-- `_parse_config` of PiPack -/
def PiPack.cfgBuild (raw : RawCfg) : Except Err ChainCfg := do
  checkParamPositive raw
  checkParamExist ["param_lambda", "param_B", "prf_f_output_length", "param_identifier_size", "prf_f", "ske"] raw
  let lam ← getInt raw "param_lambda"
  let B ← getInt raw "param_B"
  let out ← getInt raw "prf_f_output_length"
  let ids ← getInt raw "param_identifier_size"
  if !isHmacPrfName (getName raw "prf_f") then throw .valueError
  if !isAesCbcName (getName raw "ske") then throw .valueError
  let ske ← AESxCBC.new lam
  pure { lambda := lam, prfF := HmacPRF.new out lam LENGTH_UNLIMITED 20, ske := ske,
         pack := fun l => partitionBlocks l B ids, unpack := fun p => parseBySize p ids }

namespace Chain
variable (cfg : ChainCfg) (lv : Leaves)

/-- `_Gen`: `os.urandom(param_lambda)` (a negative length is a ValueError of `os.urandom`) -/
def keyGen (t : Tape) : Except Err (Bytes × Tape) :=
  if cfg.lambda < 0 then .error .valueError else takeBytes cfg.lambda.toNat t

/-- `_Trap` -/
def token (K w : Bytes) : Except Err (Bytes × Bytes) := do
  let K1 ← cfg.prfF.call lv.hmac K (1 :: w)
  let K2 ← cfg.prfF.call lv.hmac K (2 :: w)
  pure (K1, K2)

/-- the inner loop of `_Enc`: `for c, chunk in enumerate(chunks)` -/
def encChunks (K1 K2 : Bytes) : Nat → List Bytes → Tape → Except Err (List (Bytes × Bytes) × Tape)
  | _, [], t => .ok ([], t)
  | c, ch :: rest, t => do
    let l ← cfg.prfF.call lv.hmac K1 (natToBytesMin c)
    let (d, t1) ← skeEncrypt cfg.ske lv K2 ch t
    let (ps, t2) ← encChunks K1 K2 (c + 1) rest t1
    pure ((l, d) :: ps, t2)

/-- the outer loop of `_Enc`: `for keyword in database` -/
def encDb (K : Bytes) : DB → Tape → Except Err (List (Bytes × Bytes) × Tape)
  | [], t => .ok ([], t)
  | (w, ids) :: rest, t => do
    let (K1, K2) ← token cfg lv K w
    let chunks ← cfg.pack ids
    let (ps, t1) ← encChunks cfg lv K1 K2 0 chunks t
    let (qs, t2) ← encDb K rest t1
    pure (ps ++ qs, t2)

/-- `_Enc` -/
def setup (K : Bytes) (db : DB) (t : Tape) : Except Err (Table × Tape) := do
  let (L, t1) ← encDb cfg lv K db t
  pure (buildTable L, t1)

/-- `_Search`: `while True`, which ends at the first label that is not stored.  The fuel `|D| + 1` is a bound of the model only:
    it runs out (`diverges`) only if more probes hit than the table has entries, that is, under a collision of labels; the
    theorems exclude that through their `Nodup` hypothesis -/
def searchLoop (D : Table) (K1 K2 : Bytes) : Nat → Nat → List Bytes → Except Err (List Bytes)
  | 0, _, _ => .error .diverges
  | fuel + 1, c, acc => do
    let addr ← cfg.prfF.call lv.hmac K1 (natToBytesMin c)
    match D.get addr with
    | none => pure acc
    | some cipher =>
      let p ← cfg.ske.decrypt lv.D K2 cipher
      let ids ← cfg.unpack p
      searchLoop D K1 K2 fuel (c + 1) (acc ++ ids)

def searchFuel (D : Table) : Nat := D.length + 1

def search (D : Table) (tk : Bytes × Bytes) : Except Err (List Bytes) :=
  searchLoop cfg lv D tk.1 tk.2 (searchFuel D) 0 []

end Chain
end SSEPy.Sch

namespace SSEPy.Sch.Chain
variable (cfg : ChainCfg) (lv : Leaves)

/-! ### the no-collision hypotheses of the theorems, as a computation the driver runs on every recorded case -/

def nodupB : List Bytes → Bool
  | [] => true
  | a :: as => !as.contains a && nodupB as

def endFreshB (K : Bytes) (L : List (Bytes × Bytes)) (w : Bytes) (ids : List Bytes) : Bool :=
  match token cfg lv K w, cfg.pack ids with
  | .ok (K1, _), .ok chs =>
    match cfg.prfF.call lv.hmac K1 (natToBytesMin chs.length) with
    | .ok l => !(L.map (·.1)).contains l
    | .error _ => false
  | _, _ => false

def firstFreshB (K : Bytes) (L : List (Bytes × Bytes)) (w : Bytes) : Bool :=
  match token cfg lv K w with
  | .ok (K1, _) =>
    match cfg.prfF.call lv.hmac K1 (natToBytesMin 0) with
    | .ok l => !(L.map (·.1)).contains l
    | .error _ => false
  | .error _ => false

/-- all hypotheses of C01/C02 for this run: stored labels distinct, every chain's end label fresh, every absent
    keyword's first label fresh -/
def hypsB (K : Bytes) (db : DB) (t : Tape) (absent : List Bytes) : Bool :=
  match encDb cfg lv K db t with
  | .ok (L, _) => nodupB (L.map (·.1)) && db.all (fun p => endFreshB cfg lv K L p.1 p.2) &&
                  absent.all (fun w => firstFreshB cfg lv K L w)
  | .error _ => false

end SSEPy.Sch.Chain
