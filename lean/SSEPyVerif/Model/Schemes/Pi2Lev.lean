/-
  schemes/CJJ14/Pi2Lev (config.py, construction.py): small lists go into the dictionary block itself, medium lists
  into array blocks pointed to from the dictionary block, large lists through two levels of pointers.
  The first plaintext byte of every block is the level mark (00 = identifiers, 01 = pointers).
-/
import SSEPyVerif.Model.Schemes.PiPtr
namespace SSEPy.Sch

structure Pi2LevCfg where
  lambda : Int
  B : Int
  b : Int
  Bp : Int
  bp : Int
  idSize : Int
  idxSize : Int            -- param_index_size_of_A
  prfF : HmacPRF
  ske : AESxCBC

def Pi2Lev.cfgBuild (raw : RawCfg) : Except Err Pi2LevCfg := do
  checkParamPositive raw
  checkParamExist ["param_lambda", "param_B", "param_b", "param_B_prime", "param_b_prime", "prf_f_output_length",
                   "param_identifier_size", "prf_f", "ske"] raw
  let lam ← getInt raw "param_lambda"
  let B ← getInt raw "param_B"
  let b ← getInt raw "param_b"
  let Bp ← getInt raw "param_B_prime"
  let bp ← getInt raw "param_b_prime"
  let out ← getInt raw "prf_f_output_length"
  let ids ← getInt raw "param_identifier_size"
  if Bp = 0 ∨ bp = 0 then throw .zeroDivision
  let idx := Int.fdiv (B * ids) Bp
  if Int.fdiv (b * ids) bp ≠ idx then throw .valueError
  if !isHmacPrfName (getName raw "prf_f") then throw .valueError
  if !isAesCbcName (getName raw "ske") then throw .valueError
  let ske ← AESxCBC.new lam
  pure { lambda := lam, B := B, b := b, Bp := Bp, bp := bp, idSize := ids, idxSize := idx,
         prfF := HmacPRF.new out lam LENGTH_UNLIMITED 20, ske := ske }

namespace Pi2Lev
variable (cfg : Pi2LevCfg) (lv : Leaves)

def keyGen (t : Tape) : Except Err (Bytes × Tape) :=
  if cfg.lambda < 0 then .error .valueError else takeBytes cfg.lambda.toNat t

def token (K w : Bytes) : Except Err (Bytes × Bytes) := do
  let K1 ← cfg.prfF.call lv.hmac K (1 :: w)
  let K2 ← cfg.prfF.call lv.hmac K (2 :: w)
  pure (K1, K2)

def arrayLen (db : DB) : Nat :=
  1 + (db.map fun p =>
    let n : Nat := p.2.length
    (if (n : Int) > cfg.b then ceilDiv n cfg.B.toNat else 0) +
    (if (n : Int) > cfg.bp * cfg.B then ceilDiv n (cfg.B * cfg.Bp).toNat else 0)).sum

/-- encrypt `mark ‖ block` for every block into freshly popped array slots; returns the pointers -/
def placeBlocks (K2 : Bytes) (mark : UInt8) :
    List Bytes → List Nat → List (Option Bytes) → Tape → Except Err (List Bytes × List Nat × List (Option Bytes) × Tape)
  | [], avail, A, t => .ok ([], avail, A, t)
  | blk :: rest, avail, A, t =>
    match avail.getLast? with
    | none => .error .indexError
    | some pos => do
      let ptr ← intToBytes pos cfg.idxSize
      let (d, t1) ← skeEncrypt cfg.ske lv K2 (mark :: blk) t
      if pos ≥ A.length then throw .indexError
      let (ptrs, avail', A', t2) ← placeBlocks K2 mark rest avail.dropLast (A.set pos (some d)) t1
      pure (ptr :: ptrs, avail', A', t2)

/-- the dictionary entry of a keyword: `(F(K1, 00), Enc(K2, mark ‖ content ‖ zero padding up to b·idsize))` -/
def dictEntry (K1 K2 : Bytes) (mark : UInt8) (content : Bytes) (t : Tape) : Except Err ((Bytes × Bytes) × Tape) := do
  let blockSize := (cfg.b * cfg.idSize).toNat
  let padded := content ++ zeros (blockSize - content.length)
  let l ← cfg.prfF.call lv.hmac K1 [0]
  let (d, t1) ← skeEncrypt cfg.ske lv K2 (mark :: padded) t
  pure ((l, d), t1)

/-- the body of the keyword loop of `_Enc`: small / medium / large -/
def storeKeyword (K1 K2 : Bytes) (ids : List Bytes) (avail : List Nat) (A : List (Option Bytes)) (t : Tape) :
    Except Err ((Bytes × Bytes) × List Nat × List (Option Bytes) × Tape) :=
  let n : Int := ids.length
  let arrayBlock := cfg.B * cfg.idSize
  if n ≤ cfg.b then do
    let (e, t1) ← dictEntry cfg lv K1 K2 0 ids.flatten t
    pure (e, avail, A, t1)
  else if n ≤ cfg.B * cfg.bp then do
    let blocks ← partitionBlocks ids cfg.B cfg.idSize arrayBlock
    let (ptrs, avail1, A1, t1) ← placeBlocks cfg lv K2 0 blocks avail A t
    let (e, t2) ← dictEntry cfg lv K1 K2 1 ptrs.flatten t1
    pure (e, avail1, A1, t2)
  else if n < (cfg.B * cfg.Bp) * cfg.bp then do
    let blocks ← partitionBlocks ids cfg.B cfg.idSize arrayBlock
    let (ptrs, avail1, A1, t1) ← placeBlocks cfg lv K2 0 blocks avail A t
    let pblocks ← partitionBlocks ptrs cfg.Bp cfg.idxSize arrayBlock
    let (ptrs2, avail2, A2, t2) ← placeBlocks cfg lv K2 1 pblocks avail1 A1 t1
    let (e, t3) ← dictEntry cfg lv K1 K2 1 ptrs2.flatten t2
    pure (e, avail2, A2, t3)
  else throw .valueError

def encDb (K : Bytes) : DB → List Nat → List (Option Bytes) → Tape →
    Except Err (List (Bytes × Bytes) × List (Option Bytes) × Tape)
  | [], _, A, t => .ok ([], A, t)
  | (w, ids) :: rest, avail, A, t => do
    let (K1, K2) ← token cfg lv K w
    let (entry, avail1, A1, t1) ← storeKeyword cfg lv K1 K2 ids avail A t
    let (qs, A2, t2) ← encDb K rest avail1 A1 t1
    pure (entry :: qs, A2, t2)

def setup (K : Bytes) (db : DB) (t : Tape) : Except Err (PiPtrEDB × Tape) := do
  let alen := arrayLen cfg db
  if cfg.idxSize < 0 then throw .valueError                -- 2 ** negative is a float < 1 ≤ A_len … the comparison refuses
  if alen > 2 ^ (cfg.idxSize * 8).toNat then throw .valueError
  let (avail, t0) ← takeNats t
  if avail.length ≠ alen - 1 then throw .miss
  let (L, A, t1) ← encDb cfg lv K db avail (List.replicate alen none) t0
  pure ({ D := buildTable L, A := A }, t1)

def decAllOpt (K2 : Bytes) : List (Option Bytes) → Except Err (List Bytes)
  | [] => .ok []
  | none :: _ => .error .typeError
  | some c :: rest => do
    let p ← cfg.ske.decrypt lv.D K2 c
    let ps ← decAllOpt K2 rest
    pure (p :: ps)

def parseAll (count : Int) : List Bytes → Except Err (List Bytes)
  | [] => .ok []
  | p :: rest => do
    let xs ← parseByCount (p.drop 1) count
    let more ← parseAll count rest
    pure (xs ++ more)

/-- `D[addr]` at the top level, `A[int(addr)]` below it -/
def readCells (edb : PiPtrEDB) (level : Nat) (prev : List Bytes) : Except Err (List (Option Bytes)) :=
  if level = 0 then
    mapE (fun a => match edb.D.get a with | some c => Except.ok (some c) | none => Except.error Err.keyError) prev
  else
    mapE (fun a => match edb.A[intFromBytes a]? with | some c => Except.ok c | none => Except.error Err.indexError) prev

/-- the level loop of `_Search`; `prev` = the addresses to read at this level.  `level > 2 → indexError` is `param_by_level`, which
    has three rows.  The source decrypts cell by cell from a lazy generator while this reads all cells of a level first, so on a
    malformed index the error class can differ; returned runs agree. -/
def levelLoop (edb : PiPtrEDB) (K2 : Bytes) : Nat → Nat → List Bytes → Except Err (List Bytes)
  | 0, _, _ => .error .diverges
  | fuel + 1, level, prev => do
    let ciphers ← readCells edb level prev
    let pts ← decAllOpt cfg lv K2 ciphers
    let mark ← match pts.head? with
      | some p => pure (p.take 1)
      | none => throw .indexError
    let isFile := mark == [0]
    if level > 2 then throw .indexError
    let count := if level = 0 then (if mark == [1] then cfg.bp else cfg.b) else (if mark == [1] then cfg.Bp else cfg.B)
    let cur ← parseAll count pts
    if isFile then pure cur else levelLoop edb K2 fuel (level + 1) cur

def search (edb : PiPtrEDB) (tk : Bytes × Bytes) : Except Err (List Bytes) := do
  let l0 ← cfg.prfF.call lv.hmac tk.1 [0]
  if (edb.D.get l0).isNone then pure [] else levelLoop cfg lv edb tk.2 4 0 [l0]

/-! the hypotheses of the Pi2Lev theorems as a computation on this run -/

def hypsB (K : Bytes) (db : DB) (t : Tape) (absent : List Bytes) : Bool :=
  decide (0 < cfg.idxSize) &&
  match takeNats t with
  | .error _ => false
  | .ok (avail, t0) =>
    Chain.nodupB (avail.map natToBytesMin) && avail.all (· > 0) &&
    -- `setup_never_raises`: a sample of range(1, |A|), an addressable array, lists within the two-level limit
    avail.all (· < arrayLen cfg db) && decide (arrayLen cfg db ≤ 2 ^ (cfg.idxSize * 8).toNat) &&
    db.all (fun p => decide ((p.2.length : Int) < (cfg.B * cfg.Bp) * cfg.bp)) &&
    db.all (fun p => p.2.all fun x => x.length == cfg.idSize.toNat) &&   -- C05 (`Pi2Lev.shape`): identifiers of the configured size
    match encDb cfg lv K db avail (List.replicate (arrayLen cfg db) none) t0 with
    | .error _ => false
    | .ok (L, _, _) =>
      let labels := L.map (·.1)
      Chain.nodupB labels &&
      absent.all (fun w => match token cfg lv K w with
        | .ok (K1, _) => (match cfg.prfF.call lv.hmac K1 [0] with
           | .ok l => !labels.contains l | .error _ => false)
        | .error _ => false)

end Pi2Lev
end SSEPy.Sch
