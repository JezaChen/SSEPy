/-
  schemes/DP17/Pi (config.py, construction.py): tunable locality.  Lists are cut into chunks of 2^i (i = the level
  adjacent to the list length), every chunk goes to a randomly chosen bucket of level i that still has room; a hash
  table maps H(F_k1(w) ‖ count) to (level ‖ bucket) ⊕ H(F_k2(w) ‖ count); buckets are padded, shuffled and encrypted
  entry by entry under F_k3(w); search decrypts whole buckets and keeps what decrypts to `id ‖ 0^λ`.
-/
import SSEPyVerif.Model.Schemes.Common
namespace SSEPy.Sch

/-- digest sizes of the hashlib algorithms the wrapper can expand in counter mode -/
def digestSize (name : String) : Option Nat :=
  match name.toLower with
  | "sha1" => some 20 | "sha256" => some 32 | "sha224" => some 28 | "sha384" => some 48 | "sha512" => some 64
  | "md5" => some 16 | _ => none

/-- `math.ceil(l * ratio)` in IEEE double arithmetic (ratio = num/den exactly, as `float.as_integer_ratio`) -/
def ceilMulFloat (l : Nat) (num den : Int) : Int :=
  let r : Float := Float.ofInt num / Float.ofInt den
  let x := (Float.ofNat l * r).ceil
  if x < 0 then -((-x).toUInt64.toNat : Int) else (x.toUInt64.toNat : Int)

structure DP17Cfg where
  lambda : Int
  ratioNum : Int
  ratioDen : Int
  L : Int
  idSize : Int
  rnd : AESxCBC
  prfF : HmacPRF
  dsz : Nat                  -- digest size of hash_h
  cipherLen : Nat            -- param_identifier_cipher_len

def DP17.cfgBuild (raw : RawCfg) : Except Err DP17Cfg := do
  checkParamPositive raw
  checkParamExist ["param_lambda", "param_actual_storage_level_ratio", "param_L", "param_identifier_size", "rnd", "prf_f", "hash_h"] raw
  let lam ← getInt raw "param_lambda"
  let (rn, rd) ← match raw.get "param_actual_storage_level_ratio" with
    | some (.float n d) => pure (n, d)
    | some (.int z) => pure (z, 1)
    | _ => throw .typeError
  let L ← getInt raw "param_L"
  let ids ← getInt raw "param_identifier_size"
  if !isAesCbcName (getName raw "rnd") then throw .valueError
  let rnd ← AESxCBC.new lam
  if !isHmacPrfName (getName raw "prf_f") then throw .valueError
  let dsz ← match digestSize (getName raw "hash_h") with
    | some d => pure d
    | none => throw .valueError
  -- `len(rnd.Encrypt(zeros(λ), zeros(idsize + λ)))` = 16 + 16·(len // 16 + 1)   (C14.enc_len)
  pure { lambda := lam, ratioNum := rn, ratioDen := rd, L := L, idSize := ids, rnd := rnd,
         prfF := HmacPRF.new lam lam LENGTH_UNLIMITED 20, dsz := dsz,
         cipherLen := 16 + 16 * ((ids + lam).toNat / 16 + 1) }

abbrev Entry := Option (Bytes × Bytes)            -- (keyword, identifier) or a padding slot

structure Level where
  lev : Int
  remaining : List Nat
  buckets : List (List Entry)
  deriving Repr

structure DP17EDB where
  HT : Table
  A : List (Int × List Bytes)                     -- A_dict in insertion order
  deriving Repr

namespace DP17
variable (cfg : DP17Cfg) (lv : Leaves)

/-- `hash_h(m)`: the leaf `lv.sha` expanded in counter mode to `cfg.dsz` bytes, the digest size of the algorithm named in the
    configuration — one block `H(m ‖ 01)` when the leaf's digests have that length, which the model does not assume -/
def hashH (m : Bytes) : Except Err Bytes := ctrExpand lv.sha m cfg.dsz

def keyGen (t : Tape) : Except Err (List Bytes × Tape) :=
  if cfg.lambda < 0 then .error .valueError else takeBytesN cfg.lambda.toNat 3 t

/-- `L * 2 ** lev >= n` (a negative level makes the left side a fraction) -/
def fits (lev : Int) (n : Nat) : Bool :=
  if lev ≥ 0 then cfg.L * (2 ^ lev.toNat : Nat) ≥ n else cfg.L ≥ (n : Int) * (2 ^ (-lev).toNat : Nat)

/-- `_find_adjacent_i`: the binary search as written (`while lo <= hi`) -/
def findLoop (levels : List Int) (n : Nat) : Nat → Int → Int → Except Err Int
  | 0, _, _ => .error .diverges
  | fuel + 1, lo, hi =>
    if lo ≤ hi then
      let mid := (lo + hi) / 2
      match levels[mid.toNat]? with
      | none => .error .indexError
      | some lev => if fits cfg lev n then findLoop levels n fuel lo (mid - 1) else findLoop levels n fuel (mid + 1) hi
    else
      match (if lo < 0 then none else levels[lo.toNat]?) with
      | some lev => .ok lev
      | none => .error .indexError

def findAdjacent (levels : List Int) (n : Nat) : Except Err Int :=
  findLoop cfg levels n (levels.length + 2) 0 levels.length

/-- `_divide_to_buckets(size, bs)`; `_Enc` calls it with `2N + 2^(i+1)` and `2^(i+1)` -/
def divideToBuckets (size bs : Nat) : List Nat × List (List Entry) :=
  let starts := (List.range (ceilDiv size bs)).map (· * bs)
  (starts.map fun b => min bs (size - b), starts.map fun _ => [])

def levelsOf (N : Nat) : Except Err (List Int) := do
  let l := clog2 N
  let s := max 1 (ceilMulFloat l cfg.ratioNum cfg.ratioDen)
  let p : Int := ceilDiv l s.toNat
  let base := (List.range s.toNat).map fun (i : Nat) => (l : Int) - (i : Int) * p
  let lvls := if cfg.L > 1 then base ++ [0] else base
  pure lvls.reverse

def getLevel (ls : List Level) (i : Int) : Option Level := ls.find? (·.lev == i)
def setLevel (ls : List Level) (lvl : Level) : List Level := ls.map fun x => if x.lev == lvl.lev then lvl else x

/-- `maps[i]` (KeyError when the level does not exist) -/
def getLevelE (ls : List Level) (i : Int) : Except Err Level :=
  match getLevel ls i with
  | some l => .ok l
  | none => .error .keyError

/-- `for i in levels: maps[i] = _divide_to_buckets(...)` (a repeated level is simply assigned again) -/
def initLevels (N : Nat) : List Int → List Level → Except Err (List Level)
  | [], acc => .ok acc
  | i :: rest, acc =>
    if i + 1 < 0 then .error .typeError                  -- 2 ** (negative) is a float: range() refuses it
    else
      let bs := 2 ^ (i + 1).toNat
      let (rem, bk) := divideToBuckets (2 * N + bs) bs
      let lvl : Level := { lev := i, remaining := rem, buckets := bk }
      initLevels N rest (if (getLevel acc i).isSome then setLevel acc lvl else acc ++ [lvl])

def addTo (l : List (List Entry)) (x : Nat) (es : List Entry) : List (List Entry) :=
  l.mapIdx fun j b => if j = x then b ++ es else b

/-- `H(F_k1(w) ‖ count)`: the hash-table key of chunk `count` of keyword `w` -/
def htKey (k1 w : Bytes) (count : Nat) : Except Err Bytes := do
  let tag ← cfg.prfF.call lv.hmac k1 w
  hashH cfg lv (tag ++ natToBytesMin count)

/-- `[i ‖ x] ⊕ H(F_k2(w) ‖ count)` -/
def htVal (k2 w : Bytes) (count i x : Nat) : Except Err Bytes := do
  let half := cfg.dsz / 2
  let ib ← intToBytesNat i half
  let xb ← intToBytesNat x (cfg.dsz - half)
  let vtag ← cfg.prfF.call lv.hmac k2 w
  let mask ← hashH cfg lv (vtag ++ natToBytesMin count)
  bytesXor (ib ++ xb) mask

/-- the hash-table update for one chunk (nothing for an empty chunk: the inner loop does not run) -/
def htInsert (k1 k2 w : Bytes) (count i x : Nat) (c : List Bytes) (HT : Table) : Except Err Table :=
  if c.isEmpty then .ok HT else do
    let key ← htKey cfg lv k1 w count
    let v ← htVal cfg lv k2 w count i x
    pure (tinsert HT key v)

/-- one keyword: place its chunks -/
def placeChunks (k1 k2 : Bytes) (w : Bytes) (i : Nat) : List (List Bytes) → Nat → Level → Table → Tape →
    Except Err (Level × Table × Tape)
  | [], _, lvl, HT, t => .ok (lvl, HT, t)
  | c :: rest, count, lvl, HT, t => do
    let count := count + 1
    let cands := (lvl.remaining.zipIdx.filter fun p => p.1 ≥ 2 ^ i).map (·.2)
    if cands.isEmpty then throw .indexError             -- random.choice([])
    let (x, t1) ← takeNat t
    if !cands.contains x then throw .miss
    let lvl1 : Level := { lvl with buckets := addTo lvl.buckets x (c.map fun id => some (w, id)) }
    let HT1 ← htInsert cfg lv k1 k2 w count i x c HT
    let lvl2 : Level := { lvl1 with remaining := lvl1.remaining.mapIdx fun j r => if j = x then r - c.length else r }
    placeChunks k1 k2 w i rest count lvl2 HT1 t1

def encDb (k1 k2 : Bytes) (levels : List Int) : DB → List Level → Table → Tape → Except Err (List Level × Table × Tape)
  | [], ls, HT, t => .ok (ls, HT, t)
  | (w, ids) :: rest, ls, HT, t => do
    let i ← findAdjacent cfg levels ids.length
    if i < 0 then throw .typeError                       -- chunks(lst, 2 ** negative): range() refuses a float step
    let lvl ← getLevelE ls i
    let cw ← chunks ids (2 ^ i.toNat)
    let (lvl', HT', t') ← placeChunks cfg lv k1 k2 w i.toNat cw 0 lvl HT t
    encDb k1 k2 levels rest (setLevel ls lvl') HT' t'

/-- `HT[os.urandom(d)] = os.urandom(d)`: the value is drawn first -/
def fillHT (d : Nat) : Nat → Table → Tape → Except Err (Table × Tape)
  | 0, T, t => .ok (T, t)
  | n + 1, T, t => do
    let (v, t1) ← takeBytes d t
    let (k, t2) ← takeBytes d t1
    fillHT d n (tinsert T k v) t2

def permute (l : List α) (perm : List Nat) : Except Err (List α) :=
  if perm.length ≠ l.length then .error .miss else
  perm.mapM fun i => match l[i]? with | some x => .ok x | none => .error .miss

def encBucket (k3 : Bytes) : List Entry → Tape → Except Err (List Bytes × Tape)
  | [], t => .ok ([], t)
  | none :: rest, t => do
    let (r, t1) ← takeBytes cfg.cipherLen t
    let (more, t2) ← encBucket k3 rest t1
    pure (r :: more, t2)
  | some (w, id) :: rest, t => do
    let etag ← cfg.prfF.call lv.hmac k3 w
    let (c, t1) ← skeEncrypt cfg.rnd lv etag (id ++ zeros cfg.lambda.toNat) t
    let (more, t2) ← encBucket k3 rest t1
    pure (c :: more, t2)

/-- one level: pad every bucket, shuffle, encrypt; returns the buckets as padded and shuffled, the array A_i and the tape -/
def finishBuckets (k3 : Bytes) : List (List Entry) → List Nat → Tape → Except Err (List (List Entry) × List Bytes × Tape)
  | [], _, t => .ok ([], [], t)
  | b :: rest, rems, t => do
    let r := rems.headD 0
    let padded := b ++ List.replicate r none
    let (perm, t1) ← takeNats t
    let shuffled ← permute padded perm
    let (cs, t2) ← encBucket cfg lv k3 shuffled t1
    let (bs, arr, t3) ← finishBuckets k3 rest rems.tail t2
    pure (shuffled :: bs, cs.flatten :: arr, t3)

def finishLevels (k3 : Bytes) : List Int → List Level → List (Int × List Bytes) → Tape → Except Err (List (Int × List Bytes) × Tape)
  | [], _, A, t => .ok (A, t)
  | i :: rest, ls, A, t => do
    let lvl ← getLevelE ls i
    let (bs, arr, t1) ← finishBuckets cfg lv k3 lvl.buckets lvl.remaining t
    let A' := if (A.lookup i).isSome then A.map fun p => if p.1 == i then (i, arr) else p else A ++ [(i, arr)]
    finishLevels k3 rest (setLevel ls { lvl with buckets := bs }) A' t1

def setup (key : List Bytes) (db : DB) (t : Tape) : Except Err (DP17EDB × Tape) :=
  match key with
  | [k1, k2, k3] => do
    let N := db.total
    if N = 0 then throw .valueError
    let levels ← levelsOf cfg N
    let ls ← initLevels N levels []
    let (ls1, HT, t1) ← encDb cfg lv k1 k2 levels db ls [] t
    let (HT', t2) ← fillHT cfg.dsz (N - HT.length) HT t1
    let (A, t3) ← finishLevels cfg lv k3 levels ls1 [] t2
    pure ({ HT := HT', A := A }, t3)
  | _ => .error .typeError

def token (key : List Bytes) (w : Bytes) : Except Err (List Bytes) :=
  match key with
  | [k1, k2, k3] => do
    pure [← cfg.prfF.call lv.hmac k1 w, ← cfg.prfF.call lv.hmac k2 w, ← cfg.prfF.call lv.hmac k3 w]
  | _ => .error .typeError

/-- trial decryption of one bucket: keep `id` when the plaintext is `id ‖ 0^λ`; a padding error is skipped -/
def scanBucket (etag : Bytes) : List Bytes → List Bytes
  | [] => []
  | e :: rest =>
    match cfg.rnd.decrypt lv.D etag e with
    | .ok p =>
      let lam := cfg.lambda.toNat
      -- `plaintext[-λ:] == zeros(λ)`; `plaintext[:-λ]`
      if p.drop (p.length - lam) == zeros lam then p.take (p.length - lam) :: scanBucket etag rest
      else scanBucket etag rest
    | .error _ => scanBucket etag rest

/-- `[i, offset] ← evalue ⊕ H(vtag ‖ count)` -/
def decodeVal (vtag : Bytes) (count : Nat) (ev : Bytes) : Except Err (Nat × Nat) := do
  let mask ← hashH cfg lv (vtag ++ natToBytesMin count)
  let io ← bytesXor ev mask
  pure (intFromBytes (io.take (cfg.dsz / 2)), intFromBytes (io.drop (cfg.dsz / 2)))

/-- `A_dict[i][offset]` (KeyError for an unknown level, IndexError past the last bucket) -/
def lookupBucket (edb : DP17EDB) (i off : Nat) : Except Err Bytes :=
  match edb.A.lookup (i : Int) with
  | none => .error .keyError
  | some arr =>
    match arr[off]? with
    | none => .error .indexError
    | some bucket => .ok bucket

/-- one probe of the hash table: nothing when the key is absent, else the identifiers found in the bucket it names -/
def searchOne (edb : DP17EDB) (vtag etag : Bytes) (count : Nat) (key : Bytes) : Except Err (List Bytes) :=
  match edb.HT.get key with
  | none => .ok []
  | some ev => do
    let (i, off) ← decodeVal cfg lv vtag count ev
    let bucket ← lookupBucket edb i off
    let es ← chunks bucket cfg.cipherLen
    pure (scanBucket cfg lv etag es)

def searchCounts (edb : DP17EDB) (tag vtag etag : Bytes) : Nat → Nat → Except Err (List Bytes)
  | 0, _ => .ok []
  | more + 1, count => do
    let key ← hashH cfg lv (tag ++ natToBytesMin count)
    let here ← searchOne cfg lv edb vtag etag count key
    let rest ← searchCounts edb tag vtag etag more (count + 1)
    pure (here ++ rest)

def search (edb : DP17EDB) (tk : List Bytes) : Except Err (List Bytes) :=
  match tk with
  | [tag, vtag, etag] => searchCounts cfg lv edb tag vtag etag cfg.L.toNat 1
  | _ => .error .typeError

/-- the number of chunks `Setup` cuts a list into: `ceil(n / 2^i)` for the level `i` adjacent to its length -/
def nChunks (levels : List Int) (ids : List Bytes) : Nat :=
  match findAdjacent cfg levels ids.length with
  | .ok i => ceilDiv ids.length (2 ^ i.toNat)
  | .error _ => 0

def nodupBy : List Bytes → Bool
  | [] => true
  | a :: as => !as.contains a && nodupBy as

/-- the hypotheses of `Props/C01: DP17.search_stored` / `search_stored_partial`, as a computation the driver runs on every recorded case: distinct
    keywords, identifiers of the configured size, the hash-table keys `H(F_k1(w) ‖ c)` of all chunks pairwise different and
    different from every random filler, every recorded shuffle a permutation; and of `Props/C02: DP17.search_absent_empty` -/
def hypsB (key : List Bytes) (db : DB) (t : Tape) (absent : List Bytes) : Bool :=
  match key with
  | [k1, _, _] =>
    match levelsOf cfg db.total with
    | .error _ => false
    | .ok levels =>
      let tapeBytes := t.filterMap fun d => match d with | .bytes b => some b | _ => none
      let perms := t.filterMap fun d => match d with | .nats p => some p | _ => none
      let keys := db.flatMap fun p => (List.range (nChunks cfg levels p.2)).map fun c => htKey cfg lv k1 p.1 (c + 1)
      nodupBy (db.map (·.1)) &&
      -- `setup_never_raises`: the level list ascends, has no negative level, holds every list, and the fields are wide enough
      (levels.zip levels.tail).all (fun p => decide (p.1 ≤ p.2)) && levels.all (fun a => decide (0 ≤ a)) &&
      db.all (fun p => levels.any fun a => fits cfg a p.2.length) &&
      levels.all (fun a => decide (a.toNat < 256 ^ (cfg.dsz / 2)) &&
        decide ((divideToBuckets (2 * db.total + 2 ^ (a + 1).toNat) (2 ^ (a + 1).toNat)).1.length ≤ 256 ^ (cfg.dsz - cfg.dsz / 2))) &&
      db.all (fun p => p.2.all fun x => (x.length : Int) == cfg.idSize) &&
      keys.all (fun k => match k with | .ok g => !tapeBytes.contains g | .error _ => false) &&
      nodupBy (keys.map fun k => match k with | .ok g => g | .error _ => []) &&
      nodupBy (drawsLen cfg.dsz t) &&        -- C05 (`DP17.ht_shape`): no random filler key of the hash table repeats
      perms.all (fun p => p.isPerm (List.range p.length)) &&
      -- C01 (`DP17.search_stored`): every probe of a stored keyword's token yields only identifiers of that keyword
      -- (`ProbesClean`), and the probes beyond its last chunk miss the hash table
      (match setup cfg lv key db t with
       | .ok (e, _) => db.all fun p => match token cfg lv key p.1 with
          | .ok [tag, vtag, etag] => (List.range cfg.L.toNat).all fun c0 =>
              match hashH cfg lv (tag ++ natToBytesMin (c0 + 1)) with
              | .ok g =>
                if c0 + 1 ≤ nChunks cfg levels p.2 then
                  match searchOne cfg lv e vtag etag (c0 + 1) g with
                  | .ok here => here.all fun id => p.2.contains id
                  | .error _ => false
                else (e.HT.get g).isNone
              | .error _ => false
          | _ => false
       | .error _ => false) &&
      -- C02: no probe of an absent keyword is in the hash table
      (match setup cfg lv key db t with
       | .ok (e, _) => absent.all fun w => match cfg.prfF.call lv.hmac k1 w with
          | .ok tag => (List.range cfg.L.toNat).all fun c => match hashH cfg lv (tag ++ natToBytesMin (c + 1)) with
            | .ok g => (e.HT.get g).isNone | .error _ => false
          | .error _ => false
       | .error _ => false)
  | _ => false

end DP17
end SSEPy.Sch
