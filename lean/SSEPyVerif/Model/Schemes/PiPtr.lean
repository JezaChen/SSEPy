/-
  schemes/CJJ14/PiPtr (config.py, construction.py): identifier blocks of `param_B` entries live in an array `A` at
  randomly chosen positions (`random.sample(range(1, |A|), |A|-1)`, popped from the end); the dictionary holds, per
  keyword, a counter chain of encrypted blocks of `param_b` pointers into `A`.
-/
import SSEPyVerif.Model.Schemes.Chain
namespace SSEPy.Sch

structure PiPtrCfg where
  lambda : Int
  B : Int
  b : Int
  idSize : Int
  prfF : HmacPRF
  ske : AESxCBC

def PiPtr.cfgBuild (raw : RawCfg) : Except Err PiPtrCfg := do
  checkParamPositive raw
  checkParamExist ["param_lambda", "param_B", "param_b", "prf_f_output_length", "param_identifier_size", "prf_f", "ske"] raw
  let lam ← getInt raw "param_lambda"
  let B ← getInt raw "param_B"
  let b ← getInt raw "param_b"
  let out ← getInt raw "prf_f_output_length"
  let ids ← getInt raw "param_identifier_size"
  if !isHmacPrfName (getName raw "prf_f") then throw .valueError
  if !isAesCbcName (getName raw "ske") then throw .valueError
  let ske ← AESxCBC.new lam
  pure { lambda := lam, B := B, b := b, idSize := ids, prfF := HmacPRF.new out lam LENGTH_UNLIMITED 20, ske := ske }

/-- the dictionary half of PiPtr is a counter chain whose chunks are pointer blocks -/
def PiPtrCfg.chain (cfg : PiPtrCfg) : ChainCfg :=
  { lambda := cfg.lambda, prfF := cfg.prfF, ske := cfg.ske, pack := .ok, unpack := fun p => parseByCount p cfg.b }

/-- `math.ceil(math.log2(n) / 8)`: the least `k` with `256^k ≥ n` (n ≥ 1) -/
def bytesFor (n : Nat) : Nat := ceilDiv (clog2 n) 8

structure PiPtrEDB where
  D : Table
  A : List (Option Bytes)
  deriving Repr

namespace PiPtr
variable (cfg : PiPtrCfg) (lv : Leaves)

/-- `_Gen`: `os.urandom(param_lambda)` -/
def keyGen (t : Tape) : Except Err (Bytes × Tape) :=
  if cfg.lambda < 0 then .error .valueError else takeBytes cfg.lambda.toNat t

/-- `_Trap` -/
def token (K w : Bytes) : Except Err (Bytes × Bytes) := do
  let K1 ← cfg.prfF.call lv.hmac K (1 :: w)
  let K2 ← cfg.prfF.call lv.hmac K (2 :: w)
  pure (K1, K2)

/-- `sum(math.ceil(len(DB[w]) / B)) + 1` (B > 0 after the configuration check) -/
def arrayLen (db : DB) : Nat := (db.map fun p => ceilDiv p.2.length cfg.B.toNat).sum + 1

/-- store the identifier blocks of one keyword: pop a free slot (from the END of the sample), encrypt, place -/
def placeBlocks (K2 : Bytes) (idxSize : Nat) :
    List Bytes → List Nat → List (Option Bytes) → Tape → Except Err (List Bytes × List Nat × List (Option Bytes) × Tape)
  | [], avail, A, t => .ok ([], avail, A, t)
  | blk :: rest, avail, A, t =>
    match avail.getLast? with
    | none => .error .indexError                        -- pop from empty list
    | some pos => do
      let ptr ← intToBytesNat pos idxSize
      let (d, t1) ← skeEncrypt cfg.ske lv K2 blk t
      if pos ≥ A.length then throw .indexError
      let (ptrs, avail', A', t2) ← placeBlocks K2 idxSize rest avail.dropLast (A.set pos (some d)) t1
      pure (ptr :: ptrs, avail', A', t2)

/-- the keyword loop of `_Enc` -/
def encDb (K : Bytes) (idxSize : Nat) :
    DB → List Nat → List (Option Bytes) → Tape → Except Err (List (Bytes × Bytes) × List (Option Bytes) × Tape)
  | [], _, A, t => .ok ([], A, t)
  | (w, ids) :: rest, avail, A, t => do
    let (K1, K2) ← token cfg lv K w
    let blocks ← partitionBlocks ids cfg.B cfg.idSize
    let (ptrs, avail1, A1, t1) ← placeBlocks cfg lv K2 idxSize blocks avail A t
    let pblocks ← partitionBlocks ptrs cfg.b idxSize
    let (ps, t2) ← Chain.encChunks cfg.chain lv K1 K2 0 pblocks t1
    let (qs, A2, t3) ← encDb K idxSize rest avail1 A1 t2
    pure (ps ++ qs, A2, t3)

/-- `_Enc` -/
def setup (K : Bytes) (db : DB) (t : Tape) : Except Err (PiPtrEDB × Tape) := do
  let alen := arrayLen cfg db
  let idxSize := bytesFor alen
  -- `random.sample(range(1, A_len), A_len - 1)`
  let (avail, t0) ← takeNats t
  if avail.length ≠ alen - 1 then throw .miss
  let (L, A, t1) ← encDb cfg lv K idxSize db avail (List.replicate alen none) t0
  pure ({ D := buildTable L, A := A }, t1)

/-- first loop of `_Search`: collect the pointers — the probe loop of the counter chain -/
def ptrLoop (D : Table) (K1 K2 : Bytes) (fuel c : Nat) (acc : List Bytes) : Except Err (List Bytes) :=
  Chain.searchLoop cfg.chain lv D K1 K2 fuel c acc

/-- second loop: fetch, decrypt and parse the identifier blocks -/
def fetch (A : List (Option Bytes)) (K2 : Bytes) : List Bytes → Except Err (List Bytes)
  | [] => .ok []
  | p :: rest => do
    let i := intFromBytes p
    match A[i]? with
    | none => throw .indexError
    | some none => throw .typeError                 -- Decrypt(K2, None)
    | some (some c) =>
      let blk ← cfg.ske.decrypt lv.D K2 c
      let ids ← parseBySize blk cfg.idSize
      let more ← fetch A K2 rest
      pure (ids ++ more)

/-- `_Search` -/
def search (edb : PiPtrEDB) (tk : Bytes × Bytes) : Except Err (List Bytes) := do
  let ptrs ← ptrLoop cfg lv edb.D tk.1 tk.2 (edb.D.length + 1) 0 []
  fetch cfg lv edb.A tk.2 ptrs

/-! the hypotheses of the PiPtr theorems as a computation on this run -/

def hypsB (K : Bytes) (db : DB) (t : Tape) (absent : List Bytes) : Bool :=
  match takeNats t with
  | .error _ => false
  | .ok (avail, t0) =>
    Chain.nodupB (avail.map natToBytesMin) && avail.all (· > 0) &&
    avail.all (· < arrayLen cfg db) &&                 -- `setup_never_raises`: a sample of range(1, |A|)
    db.all (fun p => p.2.all fun x => x.length == cfg.idSize.toNat) &&   -- C05 (`PiPtr.shape`): identifiers of the configured size
    match encDb cfg lv K (bytesFor (arrayLen cfg db)) db avail (List.replicate (arrayLen cfg db) none) t0 with
    | .error _ => false
    | .ok (L, _, _) =>
      let labels := L.map (·.1)
      Chain.nodupB labels &&
      db.all (fun p => match token cfg lv K p.1 with
        | .ok (K1, _) =>
          (match cfg.prfF.call lv.hmac K1 (natToBytesMin (ceilDiv (ceilDiv p.2.length cfg.B.toNat) cfg.b.toNat)) with
           | .ok l => !labels.contains l | .error _ => false)
        | .error _ => false) &&
      absent.all (fun w => match token cfg lv K w with
        | .ok (K1, _) => (match cfg.prfF.call lv.hmac K1 (natToBytesMin 0) with
           | .ok l => !labels.contains l | .error _ => false)
        | .error _ => false)

end PiPtr
end SSEPy.Sch
