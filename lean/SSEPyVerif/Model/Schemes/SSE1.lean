/-
  schemes/CGKO06/SSE1 (config.py, construction.py): per keyword a linked list of nodes `id ‖ next key ‖ next address`,
  node `ctr` stored at `A[ψ_K1(ctr)]` encrypted under the previous node's key; the look-up table maps `π_K3(w)` to
  `(first address ‖ first key) ⊕ f_K2(w)`.  Search walks the list until the all-zero terminator.
  The import of the SSE-2 model is for `checkBitPrp` (both configurations name their PRP the same way) and, through it, the
  bit PRP of `Model.Feistel`.
-/
import SSEPyVerif.Model.Schemes.SSE2
namespace SSEPy.Sch

structure SSE1Cfg where
  k : Int
  l : Int
  s : Int
  dictSize : Int
  idSize : Int
  log2s : Nat
  log2sBytes : Nat
  prfF : HmacPRF
  ske1 : AESxCBC
  deriving Repr

def SSE1.cfgBuild (raw : RawCfg) : Except Err SSE1Cfg := do
  checkParamPositive raw
  checkParamExist ["param_k", "param_l", "param_s", "param_dictionary_size", "param_identifier_size",
                   "prp_pi", "prp_psi", "prf_f", "ske1", "ske2"] raw
  let k ← getInt raw "param_k"
  let l ← getInt raw "param_l"
  let s ← getInt raw "param_s"
  let ids ← getInt raw "param_identifier_size"
  let ds ← getInt raw "param_dictionary_size"
  if s ≤ 0 then throw .valueError
  let log2s := clog2 s.toNat
  let lb := ceilDiv log2s 8
  checkBitPrp (getName raw "prp_pi")
  checkBitPrp (getName raw "prp_psi")
  if !isHmacPrfName (getName raw "prf_f") then throw .valueError
  if !isAesCbcName (getName raw "ske1") then throw .valueError
  let ske1 ← AESxCBC.new k
  if !isAesCbcName (getName raw "ske2") then throw .valueError
  pure { k := k, l := l, s := s, dictSize := ds, idSize := ids, log2s := log2s, log2sBytes := lb,
         prfF := HmacPRF.new (k + lb) k l 20, ske1 := ske1 }

structure SSE1EDB where
  A : List Bytes
  T : Table
  deriving Repr

namespace SSE1
variable (cfg : SSE1Cfg) (lv : Leaves)

def keyGen (t : Tape) : Except Err (List Bytes × Tape) :=
  if cfg.k < 0 then .error .valueError else takeBytesN cfg.k.toNat 4 t

/-- `prp_psi(Bitset(K1, k_bits), Bitset(ctr, log2_s))` -/
def psi (K1 : Bytes) (ctr : Nat) : Except Err Bitset := do
  let key ← Bitset.ofBytes K1 (cfg.k * 8).toNat
  let m ← Bitset.mk' ctr cfg.log2s
  bitwiseFpePrp lv.hmac 20 cfg.log2s (cfg.k * 8) key m

/-- `prp_pi(Bitset(K3, k_bits), Bitset(keyword, l_bits))` as bytes -/
def piBytes (K3 w : Bytes) : Except Err Bytes := do
  let key ← Bitset.ofBytes K3 (cfg.k * 8).toNat
  let m ← Bitset.ofBytes w (cfg.l * 8).toNat
  let out ← bitwiseFpePrp lv.hmac 20 (cfg.l * 8) (cfg.k * 8) key m
  out.toBytes

def setCell (A : List Bytes) (i : Nat) (v : Bytes) : Except Err (List Bytes) :=
  if i < A.length then .ok (A.set i v) else .error .indexError

/-- the non-final nodes of one list: `prevKey` encrypts the node being written -/
def innerNodes (K1 : Bytes) : List Bytes → Bytes → Nat → Option Bitset → List Bytes → Tape →
    Except Err (Bytes × Nat × Option Bitset × List Bytes × Tape)
  | [], prevKey, ctr, first, A, t => .ok (prevKey, ctr, first, A, t)
  | [_], prevKey, ctr, first, A, t => .ok (prevKey, ctr, first, A, t)          -- the last node is handled by the caller
  | id :: rest, prevKey, ctr, first, A, t => do
    let (kj, t1) ← takeBytes cfg.k.toNat t                                    -- ske1.KeyGen()
    let nxt ← psi cfg lv K1 (ctr + 1)
    let node := id ++ kj ++ (← nxt.toBytes)
    let addr ← psi cfg lv K1 ctr
    let (c, t2) ← skeEncrypt cfg.ske1 lv prevKey node t1
    let A' ← setCell A addr.value c
    innerNodes K1 rest kj (ctr + 1) (first.or (some addr)) A' t2

def encDb (K1 K2 K3 : Bytes) : DB → Nat → List Bytes → Table → Tape → Except Err (List Bytes × Table × Tape)
  | [], _, A, T, t => .ok (A, T, t)
  | (w, ids) :: rest, ctr, A, T, t => do
    let (k0, t1) ← takeBytes cfg.k.toNat t
    let (lastKey, ctr1, first, A1, t2) ← innerNodes cfg lv K1 ids k0 ctr none A t1
    let lastId ← (match ids.getLast? with | some x => Except.ok x | none => Except.error Err.indexError)
    let lastNode := lastId ++ zeros cfg.k.toNat ++ zeros cfg.log2sBytes
    let lastAddr ← psi cfg lv K1 ctr1
    let (c, t3) ← skeEncrypt cfg.ske1 lv lastKey lastNode t2
    let A2 ← setCell A1 lastAddr.value c
    let firstAddr := first.getD lastAddr
    let gamma ← piBytes cfg lv K3 w
    let eta ← cfg.prfF.call lv.hmac K2 (addLeadingZeros w cfg.l)
    let fb ← firstAddr.toBytes
    let theta ← bytesXor (fb ++ k0) eta                  -- IndexError when the mask is longer
    encDb K1 K2 K3 rest (ctr1 + 1) A2 (tinsert T gamma theta) t3

def fillA (size : Nat) : List Bytes → Tape → Except Err (List Bytes × Tape)
  | [], t => .ok ([], t)
  | c :: rest, t =>
    if c = [0] then do
      let (r, t1) ← takeBytes size t
      let (more, t2) ← fillA size rest t1
      pure (r :: more, t2)
    else do
      let (more, t2) ← fillA size rest t
      pure (c :: more, t2)

/-- `T[os.urandom(l)] = os.urandom(out)`: the value is drawn first -/
def fillT (l out : Nat) : Nat → Table → Tape → Except Err (Table × Tape)
  | 0, T, t => .ok (T, t)
  | n + 1, T, t => do
    let (v, t1) ← takeBytes out t
    let (k, t2) ← takeBytes l t1
    fillT l out n (tinsert T k v) t2

def setup (key : List Bytes) (db : DB) (t : Tape) : Except Err (SSE1EDB × Tape) :=
  match key with
  | [K1, K2, K3, _] => do
    let (A, T, t1) ← encDb cfg lv K1 K2 K3 db 1 (List.replicate cfg.s.toNat [0]) [] t
    let (probe, t2) ← skeEncrypt cfg.ske1 lv (zeros cfg.k.toNat) (zeros (cfg.idSize + cfg.k + cfg.log2sBytes).toNat) t1
    let (A', t3) ← fillA probe.length A t2
    let (T', t4) ← fillT cfg.l.toNat cfg.prfF.outputLength.toNat (cfg.dictSize.toNat - T.length) T t3
    pure ({ A := A', T := T' }, t4)
  | _ => .error .typeError

def token (key : List Bytes) (w : Bytes) : Except Err (Bytes × Bytes) :=
  match key with
  | [_, K2, K3, _] => do
    let gamma ← piBytes cfg lv K3 w
    let eta ← cfg.prfF.call lv.hmac K2 (addLeadingZeros w cfg.l)
    pure (gamma, eta)
  | _ => .error .typeError

def walk (A : List Bytes) : Nat → Bytes → Bytes → List Bytes → Except Err (List Bytes)
  | 0, _, _, _ => .error .diverges
  | fuel + 1, addr, key, acc => do
    let c ← match A[intFromBytes addr]? with
      | some c => pure c
      | none => throw .indexError
    let node ← cfg.ske1.decrypt lv.D key c
    match ← splitBytes node [cfg.idSize.toNat, cfg.k.toNat, cfg.log2sBytes] with
    | [id, nk, na] =>
      if allZero nk && allZero na then pure (acc ++ [id]) else walk A fuel na nk (acc ++ [id])
    | _ => throw .valueError

def search (edb : SSE1EDB) (tk : Bytes × Bytes) : Except Err (List Bytes) :=
  match edb.T.get tk.1 with
  | none => .ok []
  | some theta => do
    let x ← bytesXor theta tk.2
    match ← splitBytes x [cfg.log2sBytes, cfg.k.toNat] with
    | [addr, key] => walk cfg lv edb.A (edb.A.length + 1) addr key []
    | _ => throw .valueError

/-! the hypotheses of the SSE-1 theorems as a computation on this run -/

def nodupBy : List Bytes → Bool
  | [] => true
  | a :: as => !as.contains a && nodupBy as

def hypsB (key : List Bytes) (db : DB) (t : Tape) (absent : List Bytes) : Bool :=
  match key with
  | [_, _, K3, _] =>
    let tapeBytes := t.filterMap fun d => match d with | .bytes b => some b | _ => none
    let labels := db.map fun p => piBytes cfg lv K3 p.1
    decide (2 ≤ cfg.log2s) &&
    -- `SSE1.setup_never_raises`: the array size is a power of two, keys of `param_k` bytes, keywords of at most `param_l`
    -- bytes, no empty list, fewer than `param_s` postings
    decide (cfg.s.toNat = 2 ^ cfg.log2s) && key.all (fun k => k.length == cfg.k.toNat) &&
    db.all (fun p => decide (p.1.length ≤ cfg.l.toNat) && !p.2.isEmpty) && decide (db.total < cfg.s.toNat) &&
    -- C05 (`SSE1.shape`): no random filler label of the table repeats a label
    nodupBy (drawsLen cfg.l.toNat t) && decide (db.length ≤ cfg.dictSize.toNat) &&
    labels.all (fun l => match l with | .ok g => !(drawsLen cfg.l.toNat t).contains g | .error _ => false) &&
    tapeBytes.all (fun b => !(b.length == cfg.k.toNat && allZero b)) &&
    labels.all (fun l => match l with | .ok g => !tapeBytes.contains g | .error _ => false) &&
    nodupBy (labels.map fun l => match l with | .ok g => g | .error _ => []) &&
    db.all (fun p => p.2.length ≤ cfg.s.toNat && p.2.all (fun x => x.length == cfg.idSize.toNat)) &&
    (match setup cfg lv key db t with
     | .ok (e, _) => absent.all (fun w => match piBytes cfg lv K3 w with
        | .ok g => (e.T.get g).isNone | .error _ => false)
     | .error _ => false)
  | _ => false

end SSE1
end SSEPy.Sch
