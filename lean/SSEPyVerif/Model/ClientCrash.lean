/-
  The client interpreter with a CRASH BUDGET: the process dies when it is about to perform its (k+1)-th mutation of the
  service directory.  Each such mutation is one effect of the extracted program (create the folder, put the configuration /
  key / local index / flag word in place, remove the local index); `Props/C13: client_writes_are_atomic` shows on the
  extracted file-manager code that their file-system operations are open and write of a temporary file, rename over the
  target, mkdir and unlink of the local index (`client_data_before_flag`: in that order, for four of the six handlers); that
  "between two effects" are the observably different crash points is argued from that.  `runCB` is `runC` (Model/Client.lean)
  with the budget threaded through; what dies with the process is the in-memory object, what survives is the world.
  `runCB` is a copy of `runC`, not an instance of it, and no lemma relates the two: the C13 client theorems are about
  `runCB` alone, evaluated on the extracted program.
-/
import SSEPyVerif.Model.Client
namespace SSEPy.ClientIR
open SSEPy.ServerIR

structure CMB where
  w : World
  o : Obj
  budget : Nat
  dead : Bool := false
  deriving Repr

def runCB (p : Program) : Nat → List Eff → CMB → CMB × Bool
  | 0, _, m => (m, false)
  | _, [], m => (m, true)
  | fuel + 1, e :: rest, m =>
    let cont := fun (m' : CMB) => runCB p fuel rest m'
    match e with
    | .guardBit b v => if m.o.bits.get b == v then (m, false) else cont m
    | .requireValidConfig => if m.o.argValid then cont m else (m, false)
    | .checkConfigValidIgnored | .addSalt | .calcSid | .returnSid | .waitSetup | .returnIfNotOk => cont m
    | .mkdirSid =>
      if m.budget = 0 then ({ m with dead := true }, false) else
      let m : CMB := { m with budget := m.budget - 1 }
      let cont := fun (m' : CMB) => runCB p fuel rest m'
      match p.fmCreateSidFolder with
      | [.mkdir] => if m.w.cdisk.dir then (m, false) else cont { m with w := { m.w with cdisk := { m.w.cdisk with dir := true } } }
      | [.mkdirExistOk] => cont { m with w := { m.w with cdisk := { m.w.cdisk with dir := true } } }
      | _ => (m, false)
    | .writeConfig =>
      if m.budget = 0 then ({ m with dead := true }, false) else
      let m : CMB := { m with budget := m.budget - 1 }
      let cont := fun (m' : CMB) => runCB p fuel rest m'
      match m.o.argCfg with
      | some c => if fileOkToWrite m.w.cdisk then cont { m with w := { m.w with cdisk := { m.w.cdisk with config := .full c } } } else (m, false)
      | none => (m, false)
    | .setMemConfig => cont { m with o := { m.o with memCfg := m.o.argCfg } }
    | .setBit b v => cont { m with o := { m.o with bits := m.o.bits.set b v } }
    | .storeMeta =>
      if m.budget = 0 then ({ m with dead := true }, false) else
      let m : CMB := { m with budget := m.budget - 1 }
      let cont := fun (m' : CMB) => runCB p fuel rest m'
      if fileOkToWrite m.w.cdisk then cont { m with w := { m.w with cdisk := { m.w.cdisk with metaSt := .full m.o.bits } } }
      else (m, false)
    | .loadConfigObject | .loadScheme => if m.o.memCfg.isSome then cont m else (m, false)
    | .keyGen => cont { m with w := { m.w with nextKey := m.w.nextKey + 1 }, o := { m.o with newKey := some m.w.nextKey } }
    | .writeKey =>
      if m.budget = 0 then ({ m with dead := true }, false) else
      let m : CMB := { m with budget := m.budget - 1 }
      let cont := fun (m' : CMB) => runCB p fuel rest m'
      match m.o.newKey with
      | some k => if fileOkToWrite m.w.cdisk then cont { m with w := { m.w with cdisk := { m.w.cdisk with key := .full k } } } else (m, false)
      | none => (m, false)
    | .loadKey =>
      match m.o.memCfg, m.w.cdisk.key with
      | some _, .full k => cont { m with o := { m.o with key := some k } }
      | _, _ => (m, false)
    | .edbSetup =>
      match m.o.key with
      | some k => cont { m with o := { m.o with edb := some k } }
      | none => (m, false)
    | .writeEdb =>
      if m.budget = 0 then ({ m with dead := true }, false) else
      let m : CMB := { m with budget := m.budget - 1 }
      let cont := fun (m' : CMB) => runCB p fuel rest m'
      match m.o.edb with
      | some x => if fileOkToWrite m.w.cdisk then cont { m with w := { m.w with cdisk := { m.w.cdisk with edb := .full x } } } else (m, false)
      | none => (m, false)
    | .loadWebsocket =>
      if m.o.connected then cont m else
      -- connect: the init echo carries the server's state, which overrides two flags in memory
      let st := m.w.server.st
      let upd := (p.updateTable.find? (·.1 == st)).map (·.2) |>.getD []
      let bits' := upd.foldl (fun b e => match e with | .setBit x v => b.set x v | _ => b) m.o.bits
      cont { m with w := { m.w with server := { m.w.server with alive := true } }, o := { m.o with bits := bits', connected := true } }
    | .loadEdbFile =>
      match m.o.edb with
      | some _ => cont m
      | none =>
        match m.o.memCfg, m.w.cdisk.edb with
        | some _, .full x => cont { m with o := { m.o with edb := some x } }
        | _, _ => (m, false)
    | .tokenGen => if m.o.key.isSome then cont m else (m, false)
    | .sendMsg mt =>
      let msg : Option Msg :=
        if mt == "config" then some (.config m.o.memCfg)
        else if mt == "upload_edb" then m.o.edb.map .upload
        else if mt == "token" then some (.search m.o.key)
        else none
      match msg with
      | none => (m, false)
      | some msg =>
        let r := spec3Msg m.w.server msg
        let m1 : CMB := { m with w := { m.w with server := r.1 } }
        match r.2 with
        | [.ok mt'] =>
          -- the acknowledgement handler runs in the receive task, then the awaited future resolves
          let (m2, _) := runCB p fuel (handlerOfEcho p mt') m1
          if m2.dead then (m2, false) else
          runCB p fuel rest { m2 with o := { m2.o with reply := some .ok } }
        | [.result _ e k] => runCB p fuel rest { m1 with o := { m1.o with reply := some (.result e k) } }
        | _ => runCB p fuel rest { m1 with o := { m1.o with reply := none, connected := false } }   -- refused: the server closed the connection
    | .awaitReply => if m.o.reply.isSome then cont m else (m, false)      -- nothing arrives: `wait_for` times out
    | .deleteEdb =>
      if m.budget = 0 then ({ m with dead := true }, false) else
      let m : CMB := { m with budget := m.budget - 1 }
      let cont := fun (m' : CMB) => runCB p fuel rest m'
      cont { m with w := { m.w with cdisk := { m.w.cdisk with edb := .absent } } }
    | .closeWebsocket => cont { m with w := { m.w with server := { m.w.server with alive := false } }, o := { m.o with connected := false } }
    | .unknown _ => (m, false)


/-- one user command under a crash budget; a dead process runs no `finally`, the server just sees the connection go -/
def runCmdB (p : Program) (w : World) (cmd : Cmd) (budget : Nat) : World × COut × Bool :=
  match loadObj p w.cdisk with
  | none => (w, .refused, false)
  | some o =>
    let fuel := 200
    let fin (r : CMB × Bool) (network : Bool) : World × COut × Bool :=
      if r.1.dead then ({ r.1.w with server := { r.1.w.server with alive := false } }, .refused, true) else
      let m := if network then (runCB p fuel p.closeService r.1).1 else r.1
      if m.dead then ({ m.w with server := { m.w.server with alive := false } }, .refused, true) else
      (m.w, (if r.2 then (match r.1.o.reply with | some (.result e k) => .result e k | _ => .ok) else .refused), false)
    match cmd with
    | .create c v => fin (runCB p fuel p.createConfig { w := w, o := { argCfg := some c, argValid := v }, budget := budget }) false
    | .key => fin (runCB p fuel p.createKey { w := w, o := o, budget := budget }) false
    | .encrypt => fin (runCB p fuel p.encryptDatabase { w := w, o := o, budget := budget }) false
    | .uploadConfig => fin (runCB p fuel p.uploadConfig { w := w, o := o, budget := budget }) true
    | .uploadEdb => fin (runCB p fuel p.uploadEdb { w := w, o := o, budget := budget }) true
    | .search => fin (runCB p fuel p.keywordSearch { w := w, o := o, budget := budget }) true

/-- the documented workflow -/
def workflow (c : Cfg) : List Cmd := [.create c true, .key, .encrypt, .uploadConfig, .uploadEdb]

/-- what the user does after a crash: if the service folder does not hold a created service (the create step itself was
    interrupted) a NEW service is created (fresh salt, fresh folder: the interrupted one is an orphan the client never
    addresses again); otherwise every step of the workflow is issued again — completed ones are refused, the interrupted one
    is redone — and then a search is made -/
def recover (p : Program) (c : Cfg) (w : World) : World × COut :=
  let created := match loadObj p w.cdisk with | some o => o.bits.created | none => false
  let w0 : World := if created then w else { w with cdisk := {} }
  let w1 := (runCmds p w0 (workflow c)).1
  runCmd p w1 .search

/-- steps `0 … i-1` of the workflow run to the end, step `i` dies after `k` mutations, then the user recovers -/
def crashThenRecover (p : Program) (c : Cfg) (i k : Nat) : Option (Bool × COut) :=
  let w := (runCmds p {} ((workflow c).take i)).1
  match (workflow c)[i]? with
  | none => none
  | some cmd =>
    let r := runCmdB p w cmd k
    some (r.2.2, (recover p c r.1).2)


/-- a recovery that is itself interrupted: the user issues the workflow again and the process dies once more, in step `i2` after
    `k2` mutations; then the user recovers again -/
def recoverTwice (p : Program) (c : Cfg) (w : World) (i2 k2 : Nat) : COut :=
  let created := match loadObj p w.cdisk with | some o => o.bits.created | none => false
  let w0 : World := if created then w else { w with cdisk := {} }
  let w1 := (runCmds p w0 ((workflow c).take i2)).1
  match (workflow c)[i2]? with
  | none => .refused
  | some cmd => (recover p c (runCmdB p w1 cmd k2).1).2

/-- crash in step `i` (budget `k`), crash again while recovering (step `i2`, budget `k2`), recover -/
def crashTwiceThenRecover (p : Program) (c : Cfg) (i k i2 k2 : Nat) : COut :=
  let w := (runCmds p {} ((workflow c).take i)).1
  match (workflow c)[i]? with
  | none => .refused
  | some cmd => recoverTwice p c (runCmdB p w cmd k).1 i2 k2

end SSEPy.ClientIR
