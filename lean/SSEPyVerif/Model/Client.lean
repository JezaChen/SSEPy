/-
  Interpreter for the client program (frontend/client/**, IR in Model/ClientIR.lean).

  A command is what `frontend/client/commands.py` does for one user action: a `Service` object freshly
  loaded from disk, one handler, and — for the three network commands — `close_service()` in a `finally`.
  The server is the three-state reference machine `Spec3` (the real server refines it: C10).
  Abstraction: KeyGen draws a fresh key id; the index built under key `k` has id `k`; a token for key
  `k` is `k`; a search result is the pair (index id, token id) — correct iff they are equal.
-/
import SSEPyVerif.Model.ClientIR
namespace SSEPy.ClientIR
open SSEPy.ServerIR

structure Bits where
  created : Bool := false
  uploaded : Bool := false
  key : Bool := false
  encrypted : Bool := false
  dbUploaded : Bool := false
  deriving DecidableEq, Repr

def Bits.get (b : Bits) : Bit → Bool
  | .created => b.created | .uploaded => b.uploaded | .key => b.key
  | .encrypted => b.encrypted | .dbUploaded => b.dbUploaded

def Bits.set (b : Bits) (x : Bit) (v : Bool) : Bits :=
  match x with
  | .created => { b with created := v } | .uploaded => { b with uploaded := v } | .key => { b with key := v }
  | .encrypted => { b with encrypted := v } | .dbUploaded => { b with dbUploaded := v }

/-- the persisted flag word, with the masks the source defines -/
def Bits.toNat (p : Program) (b : Bits) : Nat :=
  p.bitMasks.foldl (fun acc m => if b.get m.1 then acc + m.2 else acc) 0

def Bits.ofNat (p : Program) (n : Nat) : Bits :=
  p.bitMasks.foldl (fun acc m => acc.set m.1 (n / m.2 % 2 == 1)) {}

/-- the client's directory for this service -/
structure CDisk where
  dir : Bool := false
  config : FileSt Cfg := .absent
  metaSt : FileSt Bits := .absent
  key : FileSt Nat := .absent
  edb : FileSt Nat := .absent
  deriving DecidableEq, Repr

structure World where
  cdisk : CDisk := {}
  server : Spec3 := {}
  nextKey : Nat := 1
  deriving DecidableEq, Repr

inductive Cmd where
  | create (cfg : Cfg) (valid : Bool)   -- `valid`: the chosen scheme can be instantiated with the configuration
  | key | encrypt | uploadConfig | uploadEdb | search
  deriving DecidableEq, Repr

inductive COut where
  | ok
  | refused                              -- the command ended with an error
  | result (index token : Nat)           -- delivered search result: which index answered, whose token
  deriving DecidableEq, Repr

/-- the `Service` object of one command -/
structure Obj where
  bits : Bits := {}
  memCfg : Option Cfg := none
  key : Option Nat := none
  edb : Option Nat := none
  connected : Bool := false
  newKey : Option Nat := none
  argCfg : Option Cfg := none
  argValid : Bool := true
  reply : Option COut := none            -- what the awaited future delivered
  deriving Repr

structure CM where
  w : World
  o : Obj
  deriving Repr

def handlerOfEcho (p : Program) (mt : String) : List Eff :=
  match (p.echoDispatch.find? (·.1 == mt)).map (·.2) with
  | some "handle_upload_config_echo" => p.uploadConfigEcho
  | some "handle_upload_encrypted_database_echo" => p.uploadEdbEcho
  | _ => []

def fileOkToWrite (d : CDisk) : Bool := d.dir   -- `open(<dir>/<f>.tmp, 'wb')` needs the directory

/-- interpret statements; the Boolean is `false` when an exception was raised (the state reached is returned too).
    The fuel is there because `sendMsg` runs the acknowledgement handler by a nested call, which structural recursion
    on the statement list does not cover; every call consumes at most the length of its list, and 200 (`runCmd`) is
    far above the longest handler plus its echo handler. -/
def runC (p : Program) : Nat → List Eff → CM → CM × Bool
  | 0, _, m => (m, false)
  | _, [], m => (m, true)
  | fuel + 1, e :: rest, m =>
    let cont := fun (m' : CM) => runC p fuel rest m'
    match e with
    | .guardBit b v => if m.o.bits.get b == v then (m, false) else cont m
    | .requireValidConfig => if m.o.argValid then cont m else (m, false)
    | .checkConfigValidIgnored | .addSalt | .calcSid | .returnSid | .waitSetup | .returnIfNotOk => cont m
    | .mkdirSid =>
      match p.fmCreateSidFolder with
      | [.mkdir] => if m.w.cdisk.dir then (m, false) else cont { m with w := { m.w with cdisk := { m.w.cdisk with dir := true } } }
      | [.mkdirExistOk] => cont { m with w := { m.w with cdisk := { m.w.cdisk with dir := true } } }
      | _ => (m, false)
    | .writeConfig =>
      match m.o.argCfg with
      | some c => if fileOkToWrite m.w.cdisk then cont { m with w := { m.w with cdisk := { m.w.cdisk with config := .full c } } } else (m, false)
      | none => (m, false)
    | .setMemConfig => cont { m with o := { m.o with memCfg := m.o.argCfg } }
    | .setBit b v => cont { m with o := { m.o with bits := m.o.bits.set b v } }
    | .storeMeta =>
      if fileOkToWrite m.w.cdisk then cont { m with w := { m.w with cdisk := { m.w.cdisk with metaSt := .full m.o.bits } } }
      else (m, false)
    | .loadConfigObject | .loadScheme => if m.o.memCfg.isSome then cont m else (m, false)
    | .keyGen => cont { w := { m.w with nextKey := m.w.nextKey + 1 }, o := { m.o with newKey := some m.w.nextKey } }
    | .writeKey =>
      match m.o.newKey with
      | some k => if fileOkToWrite m.w.cdisk then cont { m with w := { m.w with cdisk := { m.w.cdisk with key := .full k } } } else (m, false)
      | none => (m, false)
    | .loadKey =>
      match m.o.memCfg, m.w.cdisk.key with
      | some _, .full k => cont { m with o := { m.o with key := some k } }
      | _, _ => (m, false)
    | .edbSetup =>
      match m.o.key with
      | some k => cont { m with o := { m.o with edb := some k } }
      | none => (m, false)
    | .writeEdb =>
      match m.o.edb with
      | some x => if fileOkToWrite m.w.cdisk then cont { m with w := { m.w with cdisk := { m.w.cdisk with edb := .full x } } } else (m, false)
      | none => (m, false)
    | .loadWebsocket =>
      if m.o.connected then cont m else
      -- connect: the init echo carries the server's state, which overrides two flags in memory
      let st := m.w.server.st
      let upd := (p.updateTable.find? (·.1 == st)).map (·.2) |>.getD []
      let bits' := upd.foldl (fun b e => match e with | .setBit x v => b.set x v | _ => b) m.o.bits
      cont { w := { m.w with server := { m.w.server with alive := true } }, o := { m.o with bits := bits', connected := true } }
    | .loadEdbFile =>
      match m.o.edb with
      | some _ => cont m
      | none =>
        match m.o.memCfg, m.w.cdisk.edb with
        | some _, .full x => cont { m with o := { m.o with edb := some x } }
        | _, _ => (m, false)
    | .tokenGen => if m.o.key.isSome then cont m else (m, false)
    | .sendMsg mt =>
      let msg : Option Msg :=
        if mt == "config" then some (.config m.o.memCfg)
        else if mt == "upload_edb" then m.o.edb.map .upload
        else if mt == "token" then some (.search m.o.key)
        else none
      match msg with
      | none => (m, false)
      | some msg =>
        let r := spec3Msg m.w.server msg
        let m1 : CM := { m with w := { m.w with server := r.1 } }
        match r.2 with
        | [.ok mt'] =>
          -- the acknowledgement handler runs in the receive task, then the awaited future resolves
          let (m2, _) := runC p fuel (handlerOfEcho p mt') m1
          runC p fuel rest { m2 with o := { m2.o with reply := some .ok } }
        | [.result _ e k] => runC p fuel rest { m1 with o := { m1.o with reply := some (.result e k) } }
        | _ => runC p fuel rest { m1 with o := { m1.o with reply := none, connected := false } }   -- refused: the server closed the connection
    | .awaitReply => if m.o.reply.isSome then cont m else (m, false)      -- nothing arrives: `wait_for` times out
    | .deleteEdb => cont { m with w := { m.w with cdisk := { m.w.cdisk with edb := .absent } } }
    | .closeWebsocket => cont { w := { m.w with server := { m.w.server with alive := false } }, o := { m.o with connected := false } }
    | .unknown _ => (m, false)

/-- `Service(sid)`: load the persisted state -/
def loadObj (p : Program) (d : CDisk) : Option Obj :=
  let valid : Bool := match p.fmCheckValid with
    | [.retAllExist fs] => d.dir && fs.all (fun f => if f == "config.json" then d.config != .absent
                                                     else if f == "service_meta" then d.metaSt != .absent else false)
    | _ => false
  if valid then
    match d.config, d.metaSt with
    | .full c, .full b => some { bits := b, memCfg := some c }
    | _, _ => none            -- a truncated file: the constructor raises
  else some {}

/-- one user command -/
def runCmd (p : Program) (w : World) (cmd : Cmd) : World × COut :=
  match loadObj p w.cdisk with
  | none => (w, .refused)
  | some o =>
    let fuel := 200
    let fin (r : CM × Bool) (network : Bool) : World × COut :=
      -- network commands: `finally: await close_service()`
      let m := if network then (runC p fuel p.closeService r.1).1 else r.1
      (m.w, if r.2 then (match r.1.o.reply with | some (.result e k) => .result e k | _ => .ok) else .refused)
    match cmd with
    | .create c v =>
      -- `commands.create_service` always starts from `Service()` (no sid): an object with the empty state; the sid is
      -- then computed from the salted configuration, so re-creating from a configuration that already carries its salt
      -- addresses the existing folder
      fin (runC p fuel p.createConfig { w := w, o := { argCfg := some c, argValid := v } }) false
    | .key => fin (runC p fuel p.createKey { w := w, o := o }) false
    | .encrypt => fin (runC p fuel p.encryptDatabase { w := w, o := o }) false
    | .uploadConfig => fin (runC p fuel p.uploadConfig { w := w, o := o }) true
    | .uploadEdb => fin (runC p fuel p.uploadEdb { w := w, o := o }) true
    | .search => fin (runC p fuel p.keywordSearch { w := w, o := o }) true

def runCmds (p : Program) (w : World) : List Cmd → World × List COut
  | [] => (w, [])
  | c :: cs => let (w1, o) := runCmd p w c; let (w2, os) := runCmds p w1 cs; (w2, o :: os)

end SSEPy.ClientIR
