/-
  The server side of the front end (frontend/server/**) as an intermediate representation plus its
  interpreter.  The IR *values* are regenerated from the source on every run
  (Generated/ServerIR.lean, by harness/translate/frontend_ir.py); this file fixes what the ops of the handlers, of the
  constructor and of the file manager's writing functions and `fmCheckDir` mean.  The manager's steps (`MEff`), the reading functions
  (`fmRead*`) and `recvLoopIsStandard` have no interpreter: they are only compared with the expected program.

  Abstraction: configurations, encrypted databases and tokens are opaque identifiers (`Nat`); the
  scheme enters only through `Out.result cfg edb tok`, an opaque triple standing for what the loaded scheme
  computes from the loaded index and the token.
-/
import SSEPyVerif.Model.Basic
namespace SSEPy.ServerIR

inductive Cmp where | eq | ne
  deriving DecidableEq, Repr

/-- statements of the three request handlers and of `close_service` -/
inductive Eff where
  | guardRefuse (c : Cmp) (n : Nat) (mt : String)   -- if state <c> n: send {ok: False}; raise
  | guardNoRaise (c : Cmp) (n : Nat) (mt : String)  -- if state <c> n: send {ok: False}   (no raise)
  | loadsConfig | mkdirSid | writeConfig | setMemConfig
  | setState (n : Nat) | writeMeta | writeEdb
  | sendOk (mt : String)
  | loadScheme | loadEdb | getDigest | deserToken | doSearch | sendResult
  | unknown (s : String)
  deriving DecidableEq, Repr

inductive CLeaf where
  | readConfig | readMeta | loadModule | loadConfigObject | initMeta (n : Nat) | unknown (s : String)
  deriving DecidableEq, Repr

/-- statements of `Service.__init__` -/
inductive CEff where
  | ifDirExists (t e : List CLeaf)
  | buildDispatch
  | ifStateEq (n : Nat) (body : List CLeaf)
  | sendInitEcho
  | unknown (s : String)
  deriving DecidableEq, Repr

/-- primitive file-system operations of a file-manager function -/
inductive FsOp where
  | retDirExists | retAllExist (fs : List String)
  | mkdir | mkdirExistOk | rmtree | returnIfNoDir
  | readFile (f : String) | openTrunc (f : String) | write (f : String) | unlink (f : String)
  | openTmp (f : String) | writeTmp (f : String) | replace (f : String)    -- `<f>.tmp` written, then renamed over `<f>`
  | unknown (s : String)
  deriving DecidableEq, Repr

inductive MLeaf where
  | sendControl | awaitPrevClosed | register | sleep | closeService | delEntry
  | waitTurn      -- `if sid in registry or waiting[0] is not service: send CONTROL; await cond.wait_for(both false)`
  | dequeue | refresh | notifyAll
  | unknown (s : String)
  deriving DecidableEq, Repr

/-- steps of `ServicesManager.create_service` / `clean_service_when_close_connection` -/
inductive MEff where
  | construct
  | enqueue       -- `waiting = self._waiting_dict.setdefault(sid, []); waiting.append(service)`
  | ifRegistered (b : List MLeaf)
  | locked (b : List MLeaf)
  | spawnCleanup | serve | awaitCleanup | awaitClosed
  | unknown (s : String)
  deriving DecidableEq, Repr

/-- the extracted program -/
structure Program where
  handleConfig : List Eff
  handleUpload : List Eff
  handleSearch : List Eff
  dispatch : List (String × String)
  ctor : List CEff
  recvLoopIsStandard : Bool
  closeService : List Eff
  fmCreateSidFolder : List FsOp
  fmWriteConfig : List FsOp
  fmWriteMeta : List FsOp
  fmWriteEdb : List FsOp
  fmReadConfig : List FsOp
  fmReadMeta : List FsOp
  fmReadEdb : List FsOp
  fmCheckDir : List FsOp
  mgrCreate : List MEff
  mgrCleanup : List MEff
  mgrLockIsCondition : Bool
  deriving DecidableEq, Repr

/-! ### state -/

abbrev Cfg := Nat
abbrev Edb := Nat
abbrev Tok := Nat

/-- a file: absent, truncated-but-not-yet-written, or complete -/
inductive FileSt (α : Type) where
  | absent | empty | full (v : α)
  deriving DecidableEq, Repr

structure Disk where
  dir : Bool := false
  config : FileSt Cfg := .absent
  metaSt : FileSt Nat := .absent
  edb : FileSt Edb := .absent
  deriving DecidableEq, Repr

/-- a `Service` object (one connection) -/
structure Conn where
  state : Nat := 0
  memConfig : Option Cfg := none
  moduleLoaded : Bool := false
  schemeLoaded : Bool := false
  edbCache : Option Edb := none
  deriving DecidableEq, Repr

/-- what a client can observe -/
inductive Out where
  | initEcho (state : Nat)
  | ok (mt : String)
  | refused (mt : String)
  | result (cfg : Cfg) (edb : Edb) (tok : Tok)
  | control
  | closed                      -- the connection died (handler raised): close code 1011
  | unknownStatement (s : String)
  deriving DecidableEq, Repr

/-- how a run of statements ended -/
inductive Status where
  | done | raised | crashed
  deriving DecidableEq, Repr

/-- the payload of a request -/
structure Payload where
  cfg : Option Cfg := none      -- `config` message: `none` = bytes that do not unpickle
  edb : Edb := 0
  tok : Option Tok := none      -- `token` message: `none` = bytes the scheme cannot deserialize
  deriving DecidableEq, Repr

/-- machine state while interpreting statements: disk, connection, outputs (most recent first), the
    remaining crash budget (`none` = no crash; `some k` = the process dies when the (k+1)-th
    file-system mutation is about to start), scratch registers of the handler -/
structure M where
  disk : Disk
  conn : Conn
  outs : List Out := []
  budget : Option Nat := none
  regCfg : Option Cfg := none
  regTok : Option Tok := none
  regResult : Option (Cfg × Edb × Tok) := none
  deriving Repr

/-- one file-system mutation: consumes one unit of the crash budget -/
def tick (m : M) : Option M :=
  match m.budget with
  | none => some m
  | some 0 => none
  | some (k + 1) => some { m with budget := some k }

inductive FileId where | config | metaF | edb
  deriving DecidableEq, Repr

def fileIdOf (f : String) : Option FileId :=
  if f == "config.json" then some .config else if f == "service_meta" then some .metaF
  else if f == "edb" then some .edb else none

/-- run the primitive operations of one file-manager *write* function; `wcfg/wmeta/wedb` are the values
    being written.  Returns `(m, .crashed)` when the crash budget ran out (`m` = what is on disk then). -/
def runFsWrite (ops : List FsOp) (m : M) (wcfg : Cfg) (wmeta : Nat) (wedb : Edb) : M × Status :=
  match ops with
  | [] => (m, .done)
  | op :: rest =>
    match op with
    | .returnIfNoDir => if m.disk.dir then runFsWrite rest m wcfg wmeta wedb else (m, .done)
    | .mkdir =>
      if m.disk.dir then (m, .raised) else
      match tick m with
      | none => (m, .crashed)
      | some m' => runFsWrite rest { m' with disk := { m'.disk with dir := true } } wcfg wmeta wedb
    | .mkdirExistOk =>
      if m.disk.dir then runFsWrite rest m wcfg wmeta wedb else
      match tick m with
      | none => (m, .crashed)
      | some m' => runFsWrite rest { m' with disk := { m'.disk with dir := true } } wcfg wmeta wedb
    | .openTmp _ | .writeTmp _ =>
      -- the temporary file is never read: creating / filling it changes nothing a loader can see
      match tick m with
      | none => (m, .crashed)
      | some m' => if !m'.disk.dir then (m', .raised) else runFsWrite rest m' wcfg wmeta wedb
    | .replace f =>
      match tick m with
      | none => (m, .crashed)
      | some m' =>
        match fileIdOf f with
        | some .config => runFsWrite rest { m' with disk := { m'.disk with config := .full wcfg } } wcfg wmeta wedb
        | some .metaF => runFsWrite rest { m' with disk := { m'.disk with metaSt := .full wmeta } } wcfg wmeta wedb
        | some .edb => runFsWrite rest { m' with disk := { m'.disk with edb := .full wedb } } wcfg wmeta wedb
        | none => ({ m' with outs := .unknownStatement f :: m'.outs }, .raised)
    | .openTrunc f =>
      match tick m with
      | none => (m, .crashed)
      | some m' =>
        if !m'.disk.dir then (m', .raised) else     -- open() in a missing directory: FileNotFoundError
        match fileIdOf f with
        | some .config => runFsWrite rest { m' with disk := { m'.disk with config := .empty } } wcfg wmeta wedb
        | some .metaF => runFsWrite rest { m' with disk := { m'.disk with metaSt := .empty } } wcfg wmeta wedb
        | some .edb => runFsWrite rest { m' with disk := { m'.disk with edb := .empty } } wcfg wmeta wedb
        | none => ({ m' with outs := .unknownStatement f :: m'.outs }, .raised)
    | .write f =>
      match tick m with
      | none => (m, .crashed)
      | some m' =>
        match fileIdOf f with
        | some .config => runFsWrite rest { m' with disk := { m'.disk with config := .full wcfg } } wcfg wmeta wedb
        | some .metaF => runFsWrite rest { m' with disk := { m'.disk with metaSt := .full wmeta } } wcfg wmeta wedb
        | some .edb => runFsWrite rest { m' with disk := { m'.disk with edb := .full wedb } } wcfg wmeta wedb
        | none => ({ m' with outs := .unknownStatement f :: m'.outs }, .raised)
    | .unknown s => ({ m with outs := .unknownStatement s :: m.outs }, .raised)
    | _ => ({ m with outs := .unknownStatement "unexpected fs op in a write function" :: m.outs }, .raised)

def cmpHolds (c : Cmp) (a b : Nat) : Bool :=
  match c with
  | .eq => a == b
  | .ne => a != b

/-- append an observation -/
def say (m : M) (o : Out) : M := { m with outs := o :: m.outs }

/-- interpret the statements of a handler.  `getDigest` is a no-op: `token_digest` is copied from the request into
    the reply and nothing else reads it; the model's observations do not carry it. -/
def runEffs (p : Program) (pl : Payload) : List Eff → M → M × Status
  | [], m => (m, .done)
  | e :: rest, m =>
    match e with
    | .guardRefuse c n mt =>
      if cmpHolds c m.conn.state n then (say m (.refused mt), .raised) else runEffs p pl rest m
    | .guardNoRaise c n mt =>
      if cmpHolds c m.conn.state n then runEffs p pl rest (say m (.refused mt)) else runEffs p pl rest m
    | .loadsConfig =>
      match pl.cfg with
      | none => (m, .raised)
      | some c => runEffs p pl rest { m with regCfg := some c }
    | .mkdirSid =>
      match runFsWrite p.fmCreateSidFolder m 0 0 0 with
      | (m', .done) => runEffs p pl rest m'
      | r => r
    | .writeConfig =>
      match m.regCfg with
      | none => (m, .raised)
      | some c =>
        match runFsWrite p.fmWriteConfig m c 0 0 with
        | (m', .done) => runEffs p pl rest m'
        | r => r
    | .setMemConfig => runEffs p pl rest { m with conn := { m.conn with memConfig := m.regCfg } }
    | .setState n => runEffs p pl rest { m with conn := { m.conn with state := n } }
    | .writeMeta =>
      match runFsWrite p.fmWriteMeta m 0 m.conn.state 0 with
      | (m', .done) => runEffs p pl rest m'
      | r => r
    | .writeEdb =>
      match runFsWrite p.fmWriteEdb m 0 0 pl.edb with
      | (m', .done) => runEffs p pl rest m'
      | r => r
    | .sendOk mt => runEffs p pl rest (say m (.ok mt))
    | .loadScheme =>
      match m.conn.memConfig with
      | none => (m, .raised)                       -- AttributeError: the config of this service is None
      | some _ => runEffs p pl rest { m with conn := { m.conn with moduleLoaded := true, schemeLoaded := true } }
    | .loadEdb =>
      match m.conn.edbCache with
      | some _ => runEffs p pl rest m
      | none =>
        match m.conn.memConfig, m.disk.edb with
        | some _, .full e => runEffs p pl rest { m with conn := { m.conn with edbCache := some e, moduleLoaded := true } }
        | _, _ => (m, .raised)                     -- missing / truncated index file, or no config
    | .getDigest => runEffs p pl rest m
    | .deserToken =>
      match pl.tok with
      | none => (m, .raised)
      | some t => runEffs p pl rest { m with regTok := some t }
    | .doSearch =>
      match m.conn.memConfig, m.conn.edbCache, m.regTok with
      | some c, some e, some t => runEffs p pl rest { m with regResult := some (c, e, t) }
      | _, _, _ => (m, .raised)
    | .sendResult =>
      match m.regResult with
      | some (c, e, t) => runEffs p pl rest (say m (.result c e t))
      | none => (m, .raised)
    | .unknown s => (say m (.unknownStatement s), .raised)

def runCLeafs : List CLeaf → Disk → Conn → Option Conn
  | [], _, c => some c
  | l :: rest, d, c =>
    match l with
    | .readConfig =>
      match d.config with
      | .full v => runCLeafs rest d { c with memConfig := some v }
      | _ => none                                  -- missing file / invalid JSON: the constructor raises
    | .readMeta =>
      match d.metaSt with
      | .full s => runCLeafs rest d { c with state := s }
      | _ => none                                  -- missing file / empty pickle
    | .loadModule =>
      match c.memConfig with
      | some _ => runCLeafs rest d { c with moduleLoaded := true }
      | none => none
    | .loadConfigObject =>
      match c.memConfig with
      | some _ => runCLeafs rest d { c with moduleLoaded := true }
      | none => none
    | .initMeta n => runCLeafs rest d { c with state := n }
    | .unknown _ => none

def fileExists (d : Disk) (f : String) : Bool :=
  match fileIdOf f with
  | some .config => d.config != .absent
  | some .metaF => d.metaSt != .absent
  | some .edb => d.edb != .absent
  | none => false

/-- `FileManager.check_sid_folder_exist(sid)` -/
def serviceExists (p : Program) (d : Disk) : Bool :=
  match p.fmCheckDir with
  | [.retDirExists] => d.dir
  | [.retAllExist fs] => d.dir && fs.all (fileExists d)
  | _ => false

/-- `Service(sid, websocket)`: `none` = the constructor raised (the connection dies before any echo) -/
def construct (p : Program) (d : Disk) : Option (Conn × List Out) :=
  let rec go : List CEff → Conn → List Out → Option (Conn × List Out)
    | [], c, o => some (c, o)
    | e :: rest, c, o =>
      match e with
      | .ifDirExists t el =>
        match runCLeafs (if serviceExists p d then t else el) d c with
        | some c' => go rest c' o
        | none => none
      | .buildDispatch => go rest c o
      | .ifStateEq n body =>
        if c.state == n then
          match runCLeafs body d c with
          | some c' => go rest c' o
          | none => none
        else go rest c o
      | .sendInitEcho => go rest c (.initEcho c.state :: o)
      | .unknown s => some (c, .unknownStatement s :: o)
  go p.ctor {} []

/-- a protocol message for one service id -/
inductive Msg where
  | config (c : Option Cfg)
  | upload (e : Edb)
  | search (t : Option Tok)
  | foreignSid | noType | noSid      -- skipped by the receive loop
  | unknownType                      -- a type without a handler: `recv_msg_handler[msg_type]` raises KeyError
  deriving DecidableEq, Repr

def msgTypeOf : Msg → Option String
  | .config _ => some "config" | .upload _ => some "upload_edb" | .search _ => some "token"
  | _ => none

def payloadOf : Msg → Payload
  | .config c => { cfg := c }
  | .upload e => { edb := e }
  | .search t => { tok := t }
  | _ => {}

def handlerNamed (p : Program) (name : String) : Option (List Eff) :=
  if name == "handle_upload_config" then some p.handleConfig
  else if name == "handle_upload_encrypted_database" then some p.handleUpload
  else if name == "handle_search_token" then some p.handleSearch
  else none

/-- one message on a live connection: new disk, the connection object afterwards, whether it is still
    alive (a raising handler kills it with close code 1011), observations -/
def handleMsg (p : Program) (d : Disk) (c : Conn) (msg : Msg) (budget : Option Nat := none) :
    Disk × Conn × Bool × List Out × Status :=
  match msg with
  | .foreignSid | .noType | .noSid => (d, c, true, [], .done)
  | .unknownType => (d, c, false, [.closed], .raised)
  | _ =>
    match msgTypeOf msg with
    | none => (d, c, false, [.closed], .raised)
    | some mt =>
      match (p.dispatch.find? (·.1 == mt)).bind (fun e => handlerNamed p e.2) with
      | none => (d, c, false, [.closed], .raised)       -- KeyError in the dispatch table
      | some effs =>
        match runEffs p (payloadOf msg) effs { disk := d, conn := c, budget := budget } with
        | (m, .done) => (m.disk, m.conn, true, m.outs.reverse, .done)
        | (m, .raised) => (m.disk, m.conn, false, m.outs.reverse ++ [.closed], .raised)
        | (m, .crashed) => (m.disk, m.conn, false, m.outs.reverse, .crashed)

/-- `close_service()` at cleanup: the connection's snapshot of the meta is written back -/
def closeConn (p : Program) (d : Disk) (c : Conn) : Disk :=
  (runEffs p {} p.closeService { disk := d, conn := c }).1.disk

/-! ### one service id, consecutive connections -/

inductive Ev where
  | reconnect                 -- close the current connection (if any), wait for its cleanup, connect again
  | reconnectFast             -- connect again at once: the new `Service` is built *before* the old cleanup runs
  | msg (m : Msg)
  deriving DecidableEq, Repr

/-- a dead connection's object is cleaned up too (its snapshot is written back); we keep the object
    until then -/
structure SrvD where
  disk : Disk := {}
  conn : Option Conn := none        -- the registered Service object (alive or not)
  alive : Bool := false
  deriving Repr

/-- the disk after the registered object's cleanup (`close_service()` writes its snapshot back) -/
def cleanupDisk (p : Program) (s : SrvD) : Disk :=
  match s.conn with
  | some c => closeConn p s.disk c
  | none => s.disk

/-- open a new connection: `Service(sid, ws)` reads `dRead`; afterwards the disk is `dAfter` -/
def connectOn (p : Program) (dRead dAfter : Disk) : SrvD × List Out :=
  match construct p dRead with
  | some (c, o) => ({ disk := dAfter, conn := some c, alive := true }, o.reverse)
  | none => ({ disk := dAfter, conn := none, alive := false }, [.closed])

/-- wait for the old connection's cleanup, then connect -/
def reconnectSlow (p : Program) (s : SrvD) : SrvD × List Out :=
  connectOn p (cleanupDisk p s) (cleanupDisk p s)

/-- connect at once: `create_service` builds the new `Service` (reading the disk as it is now) and the
    old connection's cleanup completes while the new one waits for the registry lock -/
def reconnectFast (p : Program) (s : SrvD) : SrvD × List Out :=
  connectOn p s.disk (cleanupDisk p s)

def stepEv (p : Program) (s : SrvD) (ev : Ev) : SrvD × List Out :=
  match ev with
  | .reconnect => reconnectSlow p s
  | .reconnectFast => reconnectFast p s
  | .msg m =>
    -- a message needs a live connection: after a refusal the client connects again first
    let r1 := if s.alive then (s, []) else reconnectSlow p s
    match r1.1.conn, r1.1.alive with
    | some c, true =>
      let r := handleMsg p r1.1.disk c m
      ({ disk := r.1, conn := some r.2.1, alive := r.2.2.1 }, r1.2 ++ r.2.2.2.1)   -- a dead object survives until its cleanup
    | _, _ => r1

def runEvs (p : Program) (s : SrvD) : List Ev → SrvD × List Out
  | [] => (s, [])
  | e :: es => let (s1, o) := stepEv p s e; let (s2, os) := runEvs p s1 es; (s2, o ++ os)

/-! ### the three-state reference machine (not-configured → configured → ready) -/

structure Spec3 where
  st : Nat := 0
  cfg : Option Cfg := none
  edb : Option Edb := none
  alive : Bool := false
  deriving DecidableEq, Repr

def Spec3.die (t : Spec3) : Spec3 := { t with alive := false }

/-- one message on the reference machine.  A search that comes too early is refused under the message type
    "result": `handle_search_token` reports its refusals with `MsgType.RESULT`, there is no type of its own. -/
def spec3Msg (t : Spec3) : Msg → Spec3 × List Out
  | .foreignSid | .noType | .noSid => (t, [])
  | .unknownType => (t.die, [.closed])
  | .config c =>
    if t.st ≠ 0 then (t.die, [.refused "config", .closed]) else
    match c with
    | none => (t.die, [.closed])
    | some v => ({ t with st := 1, cfg := some v }, [.ok "config"])
  | .upload e =>
    if t.st ≠ 1 then (t.die, [.refused "upload_edb", .closed])
    else ({ t with st := 2, edb := some e }, [.ok "upload_edb"])
  | .search tk =>
    if t.st ≠ 2 then (t.die, [.refused "result", .closed]) else
    match tk, t.cfg, t.edb with
    | some k, some c, some e => (t, [.result c e k])
    | _, _, _ => (t.die, [.closed])

def spec3Step (t : Spec3) : Ev → Spec3 × List Out
  | .reconnect | .reconnectFast => ({ t with alive := true }, [.initEcho t.st])
  | .msg m =>
    let (t1, o1) := if t.alive then (t, []) else ({ t with alive := true }, [Out.initEcho t.st])
    let (t2, o2) := spec3Msg t1 m
    (t2, o1 ++ o2)

def spec3Run (t : Spec3) : List Ev → Spec3 × List Out
  | [] => (t, [])
  | e :: es => let (t1, o) := spec3Step t e; let (t2, os) := spec3Run t1 es; (t2, o ++ os)


end SSEPy.ServerIR
