/-
  C13 — A crash between persistence steps never leaves a service unusable.

  Server: theorems about the program extracted from frontend/server/**.  A crash is a budget `k` of file-system operations
  (mkdir, open of the temporary file, its write, the rename over the target: `tick` in Model/ServerIR.lean is charged for
  each) after which the process stops, inside one of the three message handlers: there every `k` is covered, on every disk
  that has a `Shape` (the disks such a crash can leave).  A crash inside the write-back of `service_meta` at cleanup
  (`closeConn`, run without a budget) is not covered.
  Client: `client_writes_are_atomic` and `client_data_before_flag` are about the extracted file-manager code;
  `client_crash_recovers` and `client_double_crash_recovers` evaluate the extracted program under a crash budget, for the
  documented workflow with the configuration id 7.  There the budget counts whole effects of a handler (create the folder,
  put one file in place, remove the local index: `runCB` in Model/ClientCrash.lean), not their file-system operations.
-/
import SSEPyVerif.Proofs.Server
import SSEPyVerif.Proofs.Client
namespace SSEPy.C13
open SSEPy.ServerIR

abbrev G := SSEPy.Generated.serverProgram
theorem G_eq : G = expectedProgram := serverProgram_eq

/-- Storing a configuration, killed after `k` file-system operations: what is on disk denotes the state before the request
    or the configured state with that configuration. -/
theorem crash_safe_config (d : Disk) (st : Nat) (cfg : Option Cfg) (edb : Option Edb) (hs : Shape d st cfg edb)
    (c : Conn) (hc : ConnOk st cfg edb c) (v : Cfg) (k : Nat) :
    Shape (handleMsg G d c (.config (some v)) (some k)).1 st cfg edb ∨
    Shape (handleMsg G d c (.config (some v)) (some k)).1 1 (some v) none := by
  rw [G_eq]; exact crash_config hs hc.1 v k

/-- Storing an index, killed after `k` file-system operations: what is on disk denotes the state before the request or the
    ready state with that index. -/
theorem crash_safe_upload (d : Disk) (st : Nat) (cfg : Option Cfg) (edb : Option Edb) (hs : Shape d st cfg edb)
    (c : Conn) (hc : ConnOk st cfg edb c) (e : Edb) (k : Nat) :
    Shape (handleMsg G d c (.upload e) (some k)).1 st cfg edb ∨
    (∃ cf, cfg = some cf ∧ Shape (handleMsg G d c (.upload e) (some k)).1 2 (some cf) (some e)) := by
  rw [G_eq]; exact crash_upload hs hc.1 e k

/-- After the restart a new connection is accepted and told the state the disk denotes. -/
theorem restart_accepts (d : Disk) (st : Nat) (cfg : Option Cfg) (edb : Option Edb) (hs : Shape d st cfg edb) :
    ∃ c, construct G d = some (c, [.initEcho st]) ∧ ConnOk st cfg edb c := by
  rw [G_eq]; exact construct_shape hs

/-- From a disk a crash can leave and no connection, every history of events has the trace of the three-state reference
    machine started in the denoted state.  What that means for a retry of the interrupted step is read off the reference
    machine (C10's laws); it is not stated here. -/
theorem restart_then_reference (d : Disk) (st : Nat) (cfg : Option Cfg) (edb : Option Edb)
    (hs : Shape d st cfg edb) (evs : List Ev) :
    (runEvs G { disk := d, conn := none, alive := false } evs).2
      = (spec3Run { st := st, cfg := cfg, edb := edb, alive := false } evs).2 := by
  rw [G_eq]
  have h := (run_refines evs _ (Inv.of_shape hs)).2.1
  rw [absS_of_shape ({ disk := d, conn := none, alive := false } : SrvD) hs] at h
  exact h

/-- a request other than `config` and `upload` performs no mutation, so a crash during it changes nothing -/
theorem crash_safe_other (d : Disk) (c : Conn) (m : Msg) (k : Nat)
    (hm : ∀ v, m ≠ .config v) (hu : ∀ e, m ≠ .upload e) : (handleMsg G d c m (some k)).1 = d := by
  rw [G_eq]; exact crash_other d c m k (fun v => hm (some v)) hu

open SSEPy.ClientIR

def atomicOp : FsOp → Bool
  | .mkdir | .mkdirExistOk | .openTmp _ | .writeTmp _ | .replace _ | .unlink "edb" => true
  | _ => false

abbrev C := SSEPy.Generated.clientProgram

/-- every file-system operation of the client's six persisting handlers is one of: open or write of a temporary file, rename
    over the target, directory creation, removal of the local index — never a truncating open of a file the loader reads.
    This is about the set of operations, not their order. -/
theorem client_writes_are_atomic :
    ((fsOps C C.createConfig ++ fsOps C C.createKey ++ fsOps C C.encryptDatabase ++ fsOps C C.uploadConfigEcho ++
      fsOps C C.uploadEdbEcho ++ fsOps C C.closeService).all atomicOp) = true := by decide +kernel

/-- data before flag: the key / the local index / the configuration are renamed into place before the
    flag that announces them is stored, and the uploaded flag is stored before the local index is removed; the
    loader takes a folder for a service when `config.json` and `service_meta` both exist -/
theorem client_data_before_flag :
    fsOps C C.createKey = [.openTmp "key", .writeTmp "key", .replace "key",
                           .openTmp "service_meta", .writeTmp "service_meta", .replace "service_meta"] ∧
    fsOps C C.encryptDatabase = [.openTmp "edb", .writeTmp "edb", .replace "edb",
                                 .openTmp "service_meta", .writeTmp "service_meta", .replace "service_meta"] ∧
    fsOps C C.createConfig = [.mkdir, .openTmp "config.json", .writeTmp "config.json", .replace "config.json",
                              .openTmp "service_meta", .writeTmp "service_meta", .replace "service_meta"] ∧
    fsOps C C.uploadEdbEcho = [.openTmp "service_meta", .writeTmp "service_meta", .replace "service_meta", .unlink "edb"] ∧
    C.fmCheckValid = [.retAllExist ["config.json", "service_meta"]] := by decide +kernel

/-! That a crash inside an effect is not a further crash point is argued from the two theorems above, not proved.  After the
  crash the user does what the property says (`recover` in Model/ClientCrash.lean): a service whose creation was interrupted
  is created anew, otherwise every step of the workflow is issued again; then a search is made. -/

/-- does recovery after a crash in step `i` with budget `k` end in a search with index and token of one key? -/
def recovers (i k : Nat) : Bool :=
  match crashThenRecover C 7 i k with
  | some (_, .result e t) => e == t
  | _ => false

def dies (i k : Nat) : Bool :=
  match crashThenRecover C 7 i k with
  | some (d, _) => d
  | none => false

/-- The documented workflow, interrupted in step `i` — create-service, generate-key, encrypt-database, the two uploads with
    the handling of their acknowledgements (incl. the flag write of `close_service`) — after `k` effects and then recovered,
    ends in a search whose answering index and token come from the same key.  Which `k` are crashes: by evaluation, not
    stated as a theorem, create-service and the index upload perform three effects and the other steps two, so the crash
    points are budgets 0, 1 everywhere and budget 2 in steps 0 and 4; the remaining budgets below 6 are crash-free runs. -/
theorem client_crash_recovers : ∀ i, i < 5 → ∀ k, k < 6 → recovers i k = true := by
  intro i hi k hk
  by_cases hk3 : k < 3
  · obtain ⟨w, hw, hmem⟩ := ClientIR.firstCrash_mem hi hk3
    obtain ⟨key, hkey⟩ := ClientIR.recover_good (List.mem_append_left _ hmem)
    obtain ⟨died, hc⟩ := ClientIR.crashThenRecover_of_firstCrash hw
    simp only [recovers, C, hc, hkey]
    exact beq_self_eq_true key
  · -- with a budget of 3 or more no step dies: the run is evaluated as it stands
    have crashFree : ((List.range 5).all fun i => [3, 4, 5].all fun k => recovers i k) = true := by decide +kernel
    have hk' : k ∈ [3, 4, 5] := by simp only [List.mem_cons, List.not_mem_nil, or_false]; omega
    exact List.all_eq_true.mp (List.all_eq_true.mp crashFree i (List.mem_range.mpr hi)) k hk'

/-- budget 0 is a crash in every step (the process dies) and budget 3 is enough for every step -/
theorem crash_points_are_covered :
    (∀ i, i < 5 → dies i 0 = true) ∧ (∀ i, i < 5 → dies i 3 = false) := by
  have h0 : ((List.range 5).all fun i => dies i 0) = true := by decide +kernel
  have h3 : ((List.range 5).all fun i => !dies i 3) = true := by decide +kernel
  refine ⟨fun i hi => List.all_eq_true.mp h0 i (List.mem_range.mpr hi), fun i hi => ?_⟩
  have := List.all_eq_true.mp h3 i (List.mem_range.mpr hi)
  simpa using this

/-- A second crash while recovering: crash in step `i` with budget `k`, issue the workflow again and crash in its step `i2`
    with budget `k2` (every step, budgets 0 to 2, the re-issued steps that are refused included), recover: the workflow still
    ends in a search answered by the index built under the key the token was made with -/
theorem client_double_crash_recovers :
    ∀ i, i < 5 → ∀ k, k < 3 → ∀ i2, i2 < 5 → ∀ k2, k2 < 3 →
      (match crashTwiceThenRecover C 7 i k i2 k2 with | .result e t => e == t | _ => false) = true := by
  intro i hi k hk i2 hi2 k2 hk2
  obtain ⟨w, hw, hmem⟩ := firstCrash_mem hi hk
  obtain ⟨w', hw', hmem'⟩ := secondCrash_mem hmem hi2 hk2
  obtain ⟨key, hkey⟩ := recover_good hmem'
  rw [crashTwiceThenRecover_of_firstCrash hw, recoverTwice_of_secondCrash hw', hkey]
  exact beq_self_eq_true key

/-- `client_crash_recovers` under the name that says it is partial: one run of the documented workflow with one configuration
    id, not every reachable client history.  Other histories are covered for the server half by `restart_then_reference` and
    for the client by the crash lab on the real code (every crash point of every handler, harness/props/c13.py). -/
theorem client_semantic_partial : (∀ i, i < 5 → ∀ k, k < 6 → recovers i k = true) := client_crash_recovers

/-! non-vacuity: budget 4 kills the configuration upload between its two renames, and what it leaves has a `Shape` -/
example : (handleMsg G {} {} (.config (some 5)) (some 4)).1
    = { dir := true, config := .full 5, metaSt := .absent, edb := .absent } := by decide +kernel
example : Shape { dir := true, config := .full 5, metaSt := .absent, edb := .absent } 0 none none := .z10 5

end SSEPy.C13
