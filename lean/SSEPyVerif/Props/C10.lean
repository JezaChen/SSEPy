/-
  C10 — Server keeps each service in a forward-only, write-once state machine.

  `refines_three_state_machine`, `step_after`, `reachable_ok` and `reported_state_is_disk_state` are about the program
  extracted from frontend/server/** (`Generated.serverProgram`): after any history it behaves as the three-state reference
  machine.  Histories are arbitrary finite lists of events on one service id: messages config(c) / upload(e) / search(t) /
  foreign sid / missing type or sid / unknown type, and reconnections (after or before the previous connection's cleanup),
  over any number of connections.  The other theorems are laws of the reference machine.
-/
import SSEPyVerif.Proofs.Server
namespace SSEPy.C10
open SSEPy.ServerIR

/-- the tie to the source: what the translator read from frontend/server/** on this build is the program the proofs in
    `Proofs/Server.lean` evaluate -/
theorem program_is_expected : SSEPy.Generated.serverProgram = expectedProgram := serverProgram_eq

abbrev G := SSEPy.Generated.serverProgram

theorem G_eq : G = expectedProgram := program_is_expected

/-- after any history from the empty disk the files have one of the listed shapes and the open connection's `Service`
    object agrees with them (`Inv`) -/
theorem reachable_inv (evs : List Ev) : Inv (runEvs G {} evs).1 := by
  rw [G_eq]; exact (run_refines evs {} (Inv.of_shape .fresh)).1

/-- the observable trace of any history equals the trace of the three-state reference machine, and
    the durable state denotes the reference machine's state -/
theorem refines_three_state_machine (evs : List Ev) :
    (runEvs G {} evs).2 = (spec3Run {} evs).2 ∧ absS (runEvs G {} evs).1 = (spec3Run {} evs).1 := by
  rw [G_eq]
  exact (run_refines evs {} (Inv.of_shape .fresh)).2

/-- one more event after any history behaves as one step of the reference machine -/
theorem step_after (evs : List Ev) (e : Ev) :
    let s := (runEvs G {} evs).1
    (stepEv G s e).2 = (spec3Step (absS s) e).2 ∧ absS (stepEv G s e).1 = (spec3Step (absS s) e).1 := by
  have hinv := reachable_inv evs
  rw [G_eq] at hinv ⊢
  exact (step_refines _ hinv e).2

/-! The reference machine's laws speak of `spec3Step` alone; `step_after` and `reachable_ok` are what carries them over to
    the server after any history (no theorem here composes them). -/

/-- the reference states that denote a durable state: nothing / a configuration / configuration and index -/
def Ok (t : Spec3) : Prop :=
  (t.st = 0 ∧ t.cfg = none ∧ t.edb = none) ∨ (t.st = 1 ∧ t.cfg.isSome ∧ t.edb = none) ∨
  (t.st = 2 ∧ t.cfg.isSome ∧ t.edb.isSome)

theorem reachable_ok (evs : List Ev) : Ok (absS (runEvs G {} evs).1) := by
  obtain ⟨st, cfg, edb, hs, _, _⟩ := reachable_inv evs
  rw [absS_of_shape _ hs]
  show OkTriple st cfg edb
  exact hs.ok

/-- the reported state only moves not-configured → configured → ready -/
theorem state_monotone (t : Spec3) (e : Ev) (hok : Ok t) : t.st ≤ (spec3Step t e).1.st ∧ (spec3Step t e).1.st ≤ 2 := by
  have h : t.st ≤ 2 := by rcases hok with h | h | h <;> omega
  obtain ⟨_, mv, _⟩ := spec3Step_move t e
  cases mv with
  | stay _ hs | answer _ _ _ _ _ _ hs => omega       -- `hs`: the state is kept
  | config _ h0 h1 => omega                          -- 0 → 1
  | upload _ h1 h2 => omega                          -- 1 → 2

/-- an accepted configuration or index is never replaced -/
theorem write_once (t : Spec3) (e : Ev) (hok : Ok t) :
    (∀ c, t.cfg = some c → (spec3Step t e).1.cfg = some c) ∧ (∀ x, t.edb = some x → (spec3Step t e).1.edb = some x) := by
  obtain ⟨_, mv, _⟩ := spec3Step_move t e
  have hok' : OkTriple t.st t.cfg t.edb := hok
  obtain ⟨_, hcfg, hedb⟩ := mv.mono (.of_ok hok')
  exact ⟨hcfg, hedb⟩

/-- a search is answered with a result only in the ready state, and then from the accepted index
    under the accepted configuration -/
theorem search_only_when_ready (t : Spec3) (e : Ev) (c : Cfg) (x : Edb) (k : Tok)
    (h : Out.result c x k ∈ (spec3Step t e).2) : t.st = 2 ∧ t.cfg = some c ∧ t.edb = some x := by
  obtain ⟨outs, mv, hout⟩ := spec3Step_move t e
  rcases hout _ h with h | h
  · cases h
  · exact mv.of_result h

/-- a request that gets the connection closed (refused, of unknown type, or undecodable) changes nothing durable -/
theorem refused_changes_nothing (t : Spec3) (e : Ev) (h : Out.closed ∈ (spec3Step t e).2) :
    (spec3Step t e).1.st = t.st ∧ (spec3Step t e).1.cfg = t.cfg ∧ (spec3Step t e).1.edb = t.edb := by
  obtain ⟨outs, mv, hout⟩ := spec3Step_move t e
  rcases hout _ h with h | h
  · cases h
  · cases mv with
    | stay _ hs hc he => exact ⟨hs, hc, he⟩
    | answer _ _ _ _ _ _ hs hc he => exact ⟨hs, hc, he⟩
    | config | upload => simp at h

/-- every state echo in the output of a step reports the state the machine was in before the step -/
theorem reported_state_is_durable (t : Spec3) (e : Ev) (n : Nat) (h : Out.initEcho n ∈ (spec3Step t e).2) :
    n = t.st := by
  obtain ⟨outs, mv, hout⟩ := spec3Step_move t e
  rcases hout _ h with h | h
  · exact Out.initEcho.inj h
  · cases mv with
    | stay _ _ _ _ q => rcases q _ h with q | ⟨_, q⟩ <;> cases q
    | config | upload | answer => simp at h

/-- after any history a reconnection is answered by one echo, of the state `service_meta` holds (`stOf`) -/
theorem reported_state_is_disk_state (evs : List Ev) :
    let s := (runEvs G {} evs).1
    (stepEv G s .reconnect).2 = [.initEcho (absS s).st] := by
  have h := step_after evs .reconnect
  simp only [spec3Step] at h
  exact h.1

/-! non-vacuity: a concrete history, evaluated on the extracted program -/
example :
    (runEvs G {} [.msg (.search (some 1)), .msg (.config (some 7)), .msg (.config (some 8)), .msg (.upload 3),
                  .reconnectFast, .msg (.upload 4), .msg (.search (some 1))]).2
      = [.initEcho 0, .refused "result", .closed, .initEcho 0, .ok "config", .refused "config", .closed,
         .initEcho 1, .ok "upload_edb", .initEcho 2, .refused "upload_edb", .closed, .initEcho 2, .result 7 3 1] := by
  decide +kernel

end SSEPy.C10
