/-
  C12 — Overlapping connections to one service are serialised and cannot roll state back.

  The transition system of Model/Manager.lean gives the event loop, the clients and the cleanup delay every freedom asyncio
  allows: any number of connections, any interleaving of opening, sending, closing, lock acquisition, wake-ups, request
  processing and cleanup start/end.  The theorems hold in every reachable state, i.e. for every schedule.  The handlers and
  the constructor are the ones extracted from the source.  The transition system itself is written by hand: it never reads
  the extracted step order of the manager (`mgrCreate`, `mgrCleanup`, `mgrLockIsCondition`); those are only compared with the
  expected program (`program_is_expected`), so a change of that order in the source stops the build and asks for a new look
  at Model/Manager.lean.
-/
import SSEPyVerif.Proofs.Manager
namespace SSEPy.C12
open SSEPy.ServerIR SSEPy.Manager

/-- the tie to the source: the extracted program (handlers, constructor, file managers, the manager's step order and its
    kind of lock) is the one the transition system of `Model/Manager.lean` follows and these proofs evaluate -/
theorem program_is_expected : SSEPy.Generated.serverProgram = expectedProgram := serverProgram_eq

abbrev G := SSEPy.Generated.serverProgram
theorem G_eq : G = expectedProgram := program_is_expected

theorem reachable_inv {s : MState} (h : Reachable G s) : J s := by
  rw [G_eq] at h
  induction h with
  | init => exact J_init
  | step s s' a _ hs ih => exact J_step ih a hs

/-- Mutual exclusion in arrival order: a request of connection `j` is processed (`deliver j` is
    enabled) only when every earlier-opened connection has been closed and cleaned up (is in phase `done`).
    This is about replies to requests: the state echo of `openConn` and the wait notice of `enter` do reach `j`
    while earlier connections are open. -/
theorem served_only_after_earlier_closed {s s' : MState} (h : Reachable G s) (j : Nat)
    (hstep : step G s (.deliver j) = some s') (i : Nat) (hij : i < j) :
    ∃ ci : CRec, s.conns[i]? = some ci ∧ ci.phase = .done := by
  rw [G_eq] at hstep
  obtain ⟨c, _, _, hc, hserv, _⟩ := step_inv hstep
  exact earlier_done (reachable_inv h) hc (.of_serving hserv) i hij

/-- at most one connection is being served (is in phase `serving`) at any time -/
theorem one_at_a_time {s : MState} (h : Reachable G s) (i j : Nat) (ci cj : CRec)
    (hi : s.conns[i]? = some ci) (hj : s.conns[j]? = some cj)
    (ai : ci.phase = .serving) (aj : cj.phase = .serving) : i = j :=
  active_unique (reachable_inv h) hi hj (.of_serving ai) (.of_serving aj)

/-- the reference state (state number, configuration, index) the files denote, by `absS` -/
def denoted (d : Disk) : Nat × Option Cfg × Option Edb :=
  let t := absS { disk := d, conn := none, alive := false }
  (t.st, t.cfg, t.edb)

theorem denoted_of_shape {d : Disk} {st : Nat} {cfg : Option Cfg} {edb : Option Edb} (h : Shape d st cfg edb) :
    denoted d = (st, cfg, edb) := by
  unfold denoted
  rw [absS_of_shape ({ disk := d, conn := none, alive := false } : SrvD) h]

theorem spec3Msg_mono (t : Spec3) (m : Msg)
    (hok : (t.st = 0 ∧ t.cfg = none ∧ t.edb = none) ∨ (t.st = 1 ∧ t.edb = none) ∨ t.st = 2) :
    t.st ≤ (spec3Msg t m).1.st ∧ (∀ c, t.cfg = some c → (spec3Msg t m).1.cfg = some c) ∧
    (∀ e, t.edb = some e → (spec3Msg t m).1.edb = some e) := by
  have hok' : t.NoLeftover := hok
  exact (spec3Msg_move t m).mono hok'

/-- Whatever the interleaving, no enabled action moves the state the disk denotes backwards, and a
    configuration or index the disk denotes is never lost or replaced. -/
theorem durable_state_monotone {s s' : MState} (h : Reachable G s) (a : Act) (hstep : step G s a = some s') :
    (denoted s.disk).1 ≤ (denoted s'.disk).1 ∧
    (∀ c, (denoted s.disk).2.1 = some c → (denoted s'.disk).2.1 = some c) ∧
    (∀ e, (denoted s.disk).2.2 = some e → (denoted s'.disk).2.2 = some e) := by
  have hJ := reachable_inv h
  rw [G_eq] at hstep
  obtain ⟨st, cfg, edb, hs, hc⟩ := hJ.shape
  have same : ∀ t : Nat × Option Cfg × Option Edb,
      t.1 ≤ t.1 ∧ (∀ c, t.2.1 = some c → t.2.1 = some c) ∧ (∀ e, t.2.2 = some e → t.2.2 = some e) :=
    fun _ => ⟨Nat.le_refl _, fun _ h => h, fun _ h => h⟩
  have hi := step_inv hstep
  -- only a processed request and a completed cleanup touch the disk
  cases a with
  | openConn => obtain ⟨_, _, _, rfl⟩ | ⟨_, rfl⟩ := hi <;> exact same _
  | enter j => obtain ⟨c, _, _, rfl | ⟨_, _, rfl⟩⟩ := hi <;> exact same _
  | wake j => obtain ⟨c, _, _, _, _, rfl⟩ := hi; exact same _
  | send j m => obtain ⟨c, _, rfl⟩ := hi; exact same _
  | clientClose j => obtain ⟨c, _, rfl⟩ := hi; exact same _
  | finish j => obtain ⟨c, _, _, rfl⟩ := hi; exact same _
  | cleanupStart j => obtain ⟨c, _, _, rfl⟩ := hi; exact same _
  | deliver j =>
    obtain ⟨c, m, rest, hcj, hserv, _, rfl⟩ := hi
    obtain ⟨st', cfg', edb', hs', _, _, hsp⟩ :=
      handleMsg_refines m hs (hc j c hcj (.of_serving hserv))
    rw [denoted_of_shape hs, denoted_of_shape hs']
    have := spec3Msg_mono { st := st, cfg := cfg, edb := edb, alive := true } m (Spec3.NoLeftover.of_ok hs.ok)
    rw [hsp] at this
    exact this
  | cleanupEnd j =>
    obtain ⟨c, hcj, hcl, rfl⟩ := hi
    have hact : Active c.phase := .of_cleaning hcl
    simp only [cleanupEnd_disk hJ hcj hact]
    rw [denoted_of_shape hs, denoted_of_shape (closeConn_shape hs (hc j c hcj hact).1)]
    exact same _

/-- When `deliver j` is enabled and handling a message `m` on connection `j` yields a search result, the disk denotes the
    ready state and the result is computed from the configuration and the index it denotes.  The statement does not say
    that this index is the one whose upload was acknowledged (that takes `durable_state_monotone`), and `m` may be any
    message: the proof does not use `hin`. -/
theorem acknowledged_index_is_searched {s s' : MState} (h : Reachable G s) (j : Nat)
    (hstep : step G s (.deliver j) = some s') (c : CRec) (hc : s.conns[j]? = some c)
    (m : Msg) (rest : List Msg) (hin : c.inbox = m :: rest) (cf : Cfg) (e : Edb) (k : Tok)
    (hres : Out.result cf e k ∈ (handleMsg G s.disk c.obj m).2.2.2.1) :
    denoted s.disk = (2, some cf, some e) := by
  have hJ := reachable_inv h
  rw [G_eq] at hstep hres
  obtain ⟨c', _, _, hc', hserv, _⟩ := step_inv hstep
  cases hc.symm.trans hc'
  obtain ⟨st, cfg, edb, hs, hcc⟩ := hJ.shape
  obtain ⟨_, _, _, _, _, ho, _⟩ := handleMsg_refines m hs (hcc j c hc (.of_serving hserv))
  rw [ho] at hres
  obtain ⟨h2, hcf, he⟩ : st = 2 ∧ cfg = some cf ∧ edb = some e :=
    (spec3Msg_move { st := st, cfg := cfg, edb := edb, alive := true } m).of_result hres
  rw [denoted_of_shape hs, h2, hcf, he]

/-! non-vacuity: two overlapping connections, evaluated on the extracted program -/
example :
    let s := run G {} [.openConn, .openConn, .enter 0, .enter 1, .send 1 (.upload 9), .send 0 (.config (some 4)),
                       .deliver 0, .send 0 (.upload 7), .deliver 0, .clientClose 0, .finish 0, .cleanupStart 0,
                       .cleanupEnd 0, .wake 1, .deliver 1]
    (s.disk, s.registry, s.conns.map (·.phase)) =
      ({ dir := true, config := .full 4, metaSt := .full 2, edb := .full 7 }, some 1, [.done, .serving]) := by
  decide +kernel

end SSEPy.C12
