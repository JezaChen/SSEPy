/-
  C04 — The stored index and the tokens never expose keywords or identifiers; encryption is randomized.

  What a theorem can carry here is structural.  A ciphertext of the encryption wrapper starts with the 16 random bytes
  drawn for it (`ciphertext_starts_with_draw`, from C14), so different draws give different ciphertexts, whatever the keys
  and messages.  Then, per scheme and for every key, database and tape: what `EDBSetup` stores starts with a 16-byte draw
  of this run (`Stamped t`: a ciphertext, or a concatenation of ciphertexts), is itself a draw (a filler; `FromTape t`
  allows both), or is the output of a keyed PRF or PRP — `Chain.index_is_ciphertexts`, `Chain.keys_are_prf` (PiBas and
  PiPack), `PiPtr.`/`Pi2Lev.index_is_ciphertexts`, `CT14.`/`ANSS16.values_from_randomness`, `SSE1.array_from_randomness`,
  `SSE1.table_from_primitives`, `DP17.cells_from_randomness`, `SSE2.entries_are_prp_addressed`.  So keywords, identifiers,
  pointers and list lengths enter the index only as arguments of keyed primitives and as plaintexts of the randomized
  cipher, and two set-ups whose draws do not overlap share no stored value, whatever the keys and databases, the same
  ones included (`S.reencryption_shares_nothing`: Chain, PiPtr, Pi2Lev).  Not covered: the labels of the tables of PiPtr,
  Pi2Lev, CT14 and ANSS16, and DP17's hash table (keys `H(F_k1(w) ‖ c)`, masked values, random fillers); for DP17 only
  the level arrays have a theorem.
  That no keyword or identifier then occurs as a substring is a probability statement about pseudo-random bytes; the
  direct oracle scans the real serialized index and tokens.
-/
import SSEPyVerif.Proofs.Schemes.Chain
import SSEPyVerif.Proofs.Schemes.Pi2Lev
import SSEPyVerif.Proofs.Schemes.PiPtr
import SSEPyVerif.Proofs.Schemes.CT14
import SSEPyVerif.Proofs.Schemes.ANSS16
import SSEPyVerif.Proofs.Schemes.DP17Index
import SSEPyVerif.Proofs.Schemes.SSE1
import SSEPyVerif.Proofs.Schemes.SSE2
namespace SSEPy.C04
open SSEPy.Sch SSEPy.Sch.Chain

theorem ciphertext_starts_with_draw (s : AESxCBC) (E : BlockFn) (key iv msg c : Bytes) (hiv : iv.length = 16)
    (h : s.encrypt E key iv msg = .ok c) : c.take 16 = iv := C14.enc_iv_prefix s E key iv msg c hiv h

/-- any keys, any messages, equal ones included -/
theorem distinct_draws_distinct_ciphertexts (s s' : AESxCBC) (E : BlockFn) (key key' iv iv' msg msg' c c' : Bytes)
    (hiv : iv.length = 16) (hiv' : iv'.length = 16) (hne : iv ≠ iv')
    (h : s.encrypt E key iv msg = .ok c) (h' : s'.encrypt E key' iv' msg' = .ok c') : c ≠ c' := by
  intro e
  have h1 := ciphertext_starts_with_draw s E key iv msg c hiv h
  have h2 := ciphertext_starts_with_draw s' E key' iv' msg' c' hiv' h'
  rw [e] at h1
  exact hne (h1.symm.trans h2)

/-- PiBas and PiPack, one keyword's chain (`encChunks`): the draws it consumes are the 16-byte prefixes of the values it
    stores, in order -/
theorem Chain.values_start_with_draws (cfg : ChainCfg) (lv : Leaves) (K1 K2 : Bytes) (c : Nat) (chs : List Bytes)
    (t t' : Tape) (ps : List (Bytes × Bytes)) (h : encChunks cfg lv K1 K2 c chs t = .ok (ps, t')) :
    t = (ps.map fun p => Draw.bytes (p.2.take 16)) ++ t' :=
  (encChunks_inv cfg lv h).2

/-- one keyword's chain: pairwise distinct draws give pairwise distinct stored values -/
theorem Chain.values_distinct (cfg : ChainCfg) (lv : Leaves) (K1 K2 : Bytes) (c : Nat) (chs : List Bytes)
    (t t' : Tape) (ps : List (Bytes × Bytes)) (h : encChunks cfg lv K1 K2 c chs t = .ok (ps, t'))
    (hfresh : t.Nodup) : (ps.map (·.2)).Nodup := by
  rw [(encChunks_inv cfg lv h).2] at hfresh
  have h1 : ((ps.map (·.2)).map fun v => Draw.bytes (v.take 16)).Nodup := by
    rw [List.map_map]
    exact (List.nodup_append.mp hfresh).1
  exact List.Pairwise.of_map _ (fun a b hab e => hab (by rw [e])) h1

/-- PiBas and PiPack: the labels of the list `encDb` returns (of which `EDBSetup` makes the dictionary) are, keyword by
    keyword, `kwLabels`: the PRF outputs `F(K1, 0), F(K1, 1), …`, one per chunk, under the first half `K1` of the
    keyword's token, itself a PRF output — a function of the key, the keyword and the number of chunks; no identifier
    enters -/
theorem Chain.keys_are_prf (cfg : ChainCfg) (lv : Leaves) (K : Bytes) (db : DB) (t t' : Tape) (L : List (Bytes × Bytes))
    (h : encDb cfg lv K db t = .ok (L, t')) : L.map (·.1) = db.flatMap (kwLabels cfg lv K) :=
  encDb_labels cfg lv h

/-- PiPtr (schemes/CJJ14/PiPtr): every occupied array cell and every dictionary value of the index `EDBSetup` returns starts
    with a 16-byte draw of this run, for every key, database and tape -/
theorem PiPtr.index_is_ciphertexts (cfg : PiPtrCfg) (lv : Leaves) (K : Bytes) (db : DB) (t t' : Tape) (edb : PiPtrEDB)
    (h : PiPtr.setup cfg lv K db t = .ok (edb, t')) :
    (∀ c, some c ∈ edb.A → Stamped t c) ∧ (∀ p ∈ edb.D, Stamped t p.2) := by
  obtain ⟨sample, t0, L, h1, _, h2, hD⟩ := PiPtr.setup_inv cfg lv h
  obtain ⟨avail', recs, f, rfl, w, _⟩ := PiPtr.encDb_inv cfg lv h2
  have s := takeNats_suffix h1
  refine ⟨fun c hc => ?_, fun p hp => ?_⟩
  · obtain ⟨q, _, K2, blocks, blk, _, _, e⟩ := PiPtr.cell_of f w hc
    exact e.stamped.mono s
  · rw [hD] at hp
    obtain ⟨r, hr, hpr⟩ := List.mem_flatMap.mp (mem_buildTable _ p hp)
    obtain ⟨q, _, k⟩ := f.of_mem_right hr
    obtain ⟨_, e⟩ := k.chunks.enc_of_mem hpr
    exact e.stamped.mono s

theorem PiPtr.reencryption_shares_nothing (cfg : PiPtrCfg) (lv : Leaves) (K K' : Bytes) (db db' : DB) (t t' u u' : Tape)
    (e e' : PiPtrEDB) (h : PiPtr.setup cfg lv K db t = .ok (e, t')) (h' : PiPtr.setup cfg lv K' db' u = .ok (e', u'))
    (hdis : ∀ b, Draw.bytes b ∈ t → Draw.bytes b ∉ u) :
    (∀ c, some c ∈ e.A → some c ∉ e'.A) ∧ (∀ p ∈ e.D, ∀ q ∈ e'.D, p.2 ≠ q.2) :=
  shares_nothing hdis (PiPtr.index_is_ciphertexts cfg lv K db t t' e h)
    (PiPtr.index_is_ciphertexts cfg lv K' db' u u' e' h')

/-- Pi2Lev (schemes/CJJ14/Pi2Lev): every occupied array cell (identifier blocks and pointer blocks of both levels) and every
    dictionary value (small lists, pointer lists) of the index `EDBSetup` returns starts with a 16-byte draw of this run -/
theorem Pi2Lev.index_is_ciphertexts (cfg : Pi2LevCfg) (lv : Leaves) (K : Bytes) (db : DB) (t t' : Tape) (edb : PiPtrEDB)
    (h : Pi2Lev.setup cfg lv K db t = .ok (edb, t')) :
    (∀ c, some c ∈ edb.A → Stamped t c) ∧ (∀ p ∈ edb.D, Stamped t p.2) := by
  obtain ⟨sample, t0, L, _, _, h1, _, h2, hD⟩ := Pi2Lev.setup_inv cfg lv h
  obtain ⟨avail', recs, f, rfl, w, _⟩ := Pi2Lev.encDb_inv cfg lv h2
  have s := takeNats_suffix h1
  refine ⟨fun c hc => ?_, fun p hp => ?_⟩
  · obtain ⟨q, _, K2, m, blk, e, _⟩ := Pi2Lev.cell_of f w hc
    exact e.stamped.mono s
  · rw [hD] at hp
    obtain ⟨r, hr, rfl⟩ := List.mem_map.mp (mem_buildTable _ p hp)
    obtain ⟨q, _, k⟩ := f.of_mem_right hr
    exact k.value.stamped.mono s

theorem Pi2Lev.reencryption_shares_nothing (cfg : Pi2LevCfg) (lv : Leaves) (K K' : Bytes) (db db' : DB) (t t' u u' : Tape)
    (e e' : PiPtrEDB) (h : Pi2Lev.setup cfg lv K db t = .ok (e, t')) (h' : Pi2Lev.setup cfg lv K' db' u = .ok (e', u'))
    (hdis : ∀ b, Draw.bytes b ∈ t → Draw.bytes b ∉ u) :
    (∀ c, some c ∈ e.A → some c ∉ e'.A) ∧ (∀ p ∈ e.D, ∀ q ∈ e'.D, p.2 ≠ q.2) :=
  shares_nothing hdis (Pi2Lev.index_is_ciphertexts cfg lv K db t t' e h)
    (Pi2Lev.index_is_ciphertexts cfg lv K' db' u u' e' h')

/-- CT14 (schemes/CT14/Pi): every value stored in a level table is the concatenation of a chunk's ciphertexts, which starts
    with the IV drawn for the first of them, or a padding entry, itself a draw of this run.  Of `LeafLaws` only `enc_len` is
    used: the block function maps 16 bytes to 16. -/
theorem CT14.values_from_randomness (cfg : CT14Cfg) (lv : Leaves) (hl : LeafLaws lv) (K : Bytes) (db : DB) (t t' : Tape)
    (HT : List Table) (h : CT14.setup cfg lv K db t = .ok (HT, t')) : ∀ T ∈ HT, ∀ p ∈ T, FromTape t p.2 :=
  CT14.setup_fromTape hl.enc_len h

/-- ANSS16 Scheme 3: every value of the size table `HT(S)` (encrypted list lengths, random padding) and of every level table
    (padded lists encrypted identifier by identifier, random padding) starts with an IV drawn in this run or is itself a
    draw of this run -/
theorem ANSS16.values_from_randomness (cfg : ANSSCfg) (lv : Leaves) (hl : LeafLaws lv) (K : Bytes) (db : DB) (t t' : Tape)
    (edb : ANSSEDB) (h : ANSS16.setup cfg lv K db t = .ok (edb, t')) :
    (∀ p ∈ edb.HTS, FromTape t p.2) ∧ ∀ T ∈ edb.HTL, ∀ p ∈ T, FromTape t p.2 :=
  ANSS16.setup_fromTape hl.enc_len h

/-- DP17: the level arrays hold nothing but whole cells of `param_identifier_cipher_len` bytes, and every cell is either a random
    draw of this run (a dummy) or `Enc(F_k3(w), iv, id ‖ 0^λ)` for a posting `(w, id)` of the database under an IV drawn in
    this run — for identifiers of the configured size (`hidl`) -/
theorem DP17.cells_from_randomness (raw : RawCfg) (cfg : DP17Cfg) (hcfg : DP17.cfgBuild raw = .ok cfg) (lv : Leaves)
    (hl : LeafLaws lv) (k1 k2 k3 : Bytes) (db : DB) (t t' : Tape) (edb : DP17EDB)
    (hs : DP17.setup cfg lv [k1, k2, k3] db t = .ok (edb, t'))
    (hidl : ∀ p ∈ db, ∀ id ∈ p.2, (id.length : Int) = cfg.idSize) :
    ∀ p ∈ edb.A, ∀ a ∈ p.2, ∃ cs : List Bytes, a = cs.flatten ∧ (∀ c ∈ cs, c.length = cfg.cipherLen) ∧
      ∀ c ∈ cs, Draw.bytes c ∈ t ∨ ∃ w id etag iv, (∃ ids, (w, ids) ∈ db ∧ id ∈ ids) ∧ cfg.prfF.call lv.hmac k3 w = .ok etag ∧
        Draw.bytes iv ∈ t ∧ iv.length = 16 ∧ cfg.rnd.encrypt lv.E etag iv (id ++ zeros cfg.lambda.toNat) = .ok c :=
  DP17.setup_cells cfg lv raw hcfg hl k1 k2 k3 db t t' edb hs hidl

/-- `ciphertext_starts_with_draw` for DP17's cipher `rnd`.  The statement does not mention the index; it is meant for the
    non-dummy cells of `DP17.cells_from_randomness`: each starts with the IV drawn for it. -/
theorem DP17.real_cells_start_with_draws (cfg : DP17Cfg) (lv : Leaves) (etag iv msg c : Bytes) (hiv : iv.length = 16)
    (h : cfg.rnd.encrypt lv.E etag iv msg = .ok c) : c.take 16 = iv :=
  ciphertext_starts_with_draw cfg.rnd lv.E etag iv msg c hiv h

/-- SSE-1: every cell of the array `A` is a node ciphertext `Enc(id ‖ next key ‖ next address)`, which starts with the IV
    drawn for it in this run, or a random filler drawn in this run -/
theorem SSE1.array_from_randomness (cfg : SSE1Cfg) (lv : Leaves) (K1 K2 K3 K4 : Bytes) (db : DB) (t t' : Tape) (edb : SSE1EDB)
    (h : SSE1.setup cfg lv [K1, K2, K3, K4] db t = .ok (edb, t')) : ∀ c ∈ edb.A, FromTape t c := by
  obtain ⟨es, size, kvs, t1, t3, hb⟩ := SSE1.setup_inv h
  intro c hc
  rcases hb.cell_cases hc with ⟨e, he, n, hn, rfl⟩ | ⟨_, hd⟩
  · exact .of_stamped (hb.nodeEnc e he n hn).stamped
  · exact .of_draw (hb.suffix1.mem hd)

/-- PiBas and PiPack: every value of the dictionary `EDBSetup` returns (the ciphertext of an identifier, or of a block of
    identifiers, under the IV drawn for it) starts with a 16-byte draw of this run -/
theorem Chain.index_is_ciphertexts (cfg : ChainCfg) (lv : Leaves) (K : Bytes) (db : DB) (t t' : Tape) (D : Table)
    (h : Chain.setup cfg lv K db t = .ok (D, t')) : ∀ p ∈ D, Stamped t p.2 := by
  obtain ⟨L, hL, rfl⟩ := setup_inv cfg lv h
  obtain ⟨recs, f, rfl, _⟩ := encDb_inv cfg lv hL
  intro p hp
  obtain ⟨r, hr, hp'⟩ := List.mem_flatMap.mp (mem_buildTable _ p hp)
  obtain ⟨q, _, k⟩ := f.of_mem_right hr
  obtain ⟨_, e⟩ := k.chunks.enc_of_mem hp'
  exact e.stamped

theorem Chain.reencryption_shares_nothing (cfg : ChainCfg) (lv : Leaves) (K K' : Bytes) (db db' : DB) (t t' u u' : Tape)
    (D D' : Table) (h : Chain.setup cfg lv K db t = .ok (D, t')) (h' : Chain.setup cfg lv K' db' u = .ok (D', u'))
    (hdis : ∀ b, Draw.bytes b ∈ t → Draw.bytes b ∉ u) : ∀ p ∈ D, ∀ q ∈ D', p.2 ≠ q.2 :=
  values_share_nothing hdis (Chain.index_is_ciphertexts cfg lv K db t t' D h)
    (Chain.index_is_ciphertexts cfg lv K' db' u u' D' h')

/-- SSE-1: every entry of the look-up table `T` is `(π_K3(w), (first address ‖ first key) ⊕ F_K2(w))` for a stored keyword `w`
    — the label a PRP output, the value masked by a PRF output — or a pair of random draws of the run.  No keyword, no
    identifier: the keyword enters only as the argument of the keyed PRP and PRF. -/
theorem SSE1.table_from_primitives (cfg : SSE1Cfg) (lv : Leaves) (K1 K2 K3 K4 : Bytes) (db : DB) (t t' : Tape) (edb : SSE1EDB)
    (h : SSE1.setup cfg lv [K1, K2, K3, K4] db t = .ok (edb, t')) :
    ∀ p ∈ edb.T,
      (∃ w ids x eta, (w, ids) ∈ db ∧ SSE1.piBytes cfg lv K3 w = .ok p.1 ∧
          cfg.prfF.call lv.hmac K2 (addLeadingZeros w cfg.l) = .ok eta ∧ bytesXor x eta = .ok p.2) ∨
      (Draw.bytes p.1 ∈ t ∧ Draw.bytes p.2 ∈ t) := by
  obtain ⟨es, size, kvs, t1, t3, hb⟩ := SSE1.setup_inv h
  intro p hp
  rcases hb.entry_cases hp with ⟨e, he, rfl⟩ | hp
  · obtain ⟨eta, fb, heta, _, hth⟩ := (hb.kw e he).theta
    exact Or.inl ⟨e.w, e.ids, _, eta, hb.mem_db he, (hb.kw e he).gamma, heta, hth⟩
  · have hs3 := hb.suffix.trans hb.suffix1
    exact Or.inr ⟨hs3.mem (hb.kvs_mem p hp).1, hs3.mem (hb.kvs_mem p hp).2⟩

/-- SSE-2: every entry of the index maps a PRP value `π_K1(x ‖ j)` to an identifier of the database, `x` a stored keyword (a
    posting) or the all-zero word (a filler).  Keywords enter the index only as arguments of the keyed PRP; the identifiers
    are stored in the clear, which is what the property exempts SSE-2 for. -/
theorem SSE2.entries_are_prp_addressed (cfg : SSE2Cfg) (lv : Leaves) (K1 : Bytes) (db : DB) (I : ITable)
    (h : SSE2.setup cfg lv K1 db = .ok I) :
    ∀ e ∈ I, ∃ x j, SSE2.addr cfg lv K1 x j = .ok e.1 ∧ (x ∈ db.map (·.1) ∨ x = zeros cfg.l.toNat) ∧ e.2 ∈ db.flatMap (·.2) := by
  intro e he
  obtain ⟨ws, hws, h⟩ := SSE2.setup_inv h
  -- an entry is a write of the posting loop, or one of the filler loop, which runs over the counted identifiers
  have hmem : e ∈ ws.foldl SSE2.ins [] ∨ (e.2 ∈ ((db.flatMap (·.2)).foldl SSE2.bump []).map (·.1) ∧
      ∃ j, SSE2.addr cfg lv K1 (zeros cfg.l.toNat) j = .ok e.1) := by
    rcases h with h | rfl
    · exact SSE2.mem_fillAll h he
    · exact .inl he
  rcases hmem with h1 | ⟨h1, j, ha⟩
  · rcases SSE2.mem_foldl_ins h1 with h2 | h2
    · cases h2
    · obtain ⟨w, ids, i, hm, ha, hi⟩ := (SSE2.mem_writes hws e).mp h2
      exact ⟨w, _, ha, .inl (List.mem_map_of_mem hm), List.mem_flatMap.mpr ⟨_, hm, List.mem_of_getElem? hi⟩⟩
  · obtain ⟨p, hp, hpe⟩ := List.mem_map.mp h1
    rcases SSE2.mem_foldl_bump hp with h2 | h2
    · cases h2
    · exact ⟨_, j, ha, .inr rfl, hpe ▸ h2⟩

end SSEPy.C04
