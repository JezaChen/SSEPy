/-
  C09 — End to end: results delivered through client and server equal the local answer.

  The composed model: the client program extracted from frontend/client/** (run with a `Service` object freshly loaded
  from disk for every command, i.e. the client is re-created between any two steps), the reference server (which the
  extracted server program refines: C10), and server restarts (all connection objects dropped, the disk kept) inserted
  anywhere.  A delivered result is `(e, k)`: the index that answered was built under key `e`, the token under key `k`;
  the theorems say `e = k`.  The bridge to the property is informal: by C01/C02 (a scheme searched with a token of the
  key its index was built under returns exactly DB.get(w)) and C03 (the objects survive the wire) a result with `e = k`
  deserializes to DB.get(w, []).  That `k` is the key on the client's disk is not proved here
  (`C11.uploaded_index_searchable` says it for one search).
-/
import SSEPyVerif.Props.C11
namespace SSEPy.C09
open SSEPy.ClientIR SSEPy.ServerIR

/-- every history of client commands and server restarts: whatever result is ever delivered comes from an index and a
    token of the same key -/
theorem delivered_results_are_correct (steps : List Step) (e k : Nat)
    (hm : COut.result e k ∈ (runSteps SSEPy.Generated.clientProgram {} steps).2) : e = k := by
  rw [C11.program_is_expected, world_init, runSteps_restartFree] at hm
  exact AS.run_result _ _ e k hm

/-- the documented workflow with a server restart (or not) before each of its six steps — all 2^6 placements —, then a
    restart and a second search: every step is accepted and both searches deliver the result of the index and a token of
    key 1, the key the workflow generated -/
theorem workflow_with_restarts_anywhere (cfg : Cfg) (r0 r1 r2 r3 r4 r5 : Bool) :
    let R := fun (b : Bool) => if b then [Step.restart] else []
    (runSteps SSEPy.Generated.clientProgram {}
        (R r0 ++ [.cmd (.create cfg true)] ++ R r1 ++ [.cmd .key] ++ R r2 ++ [.cmd .encrypt] ++ R r3 ++
         [.cmd .uploadConfig] ++ R r4 ++ [.cmd .uploadEdb] ++ R r5 ++ [.cmd .search, .restart, .cmd .search])).2
      = [.ok, .ok, .ok, .ok, .ok, .result 1 1, .result 1 1] := by
  intro R
  have hR : ∀ b, (R b).filterMap Step.cmd? = [] := fun b => by cases b <;> rfl
  rw [C11.program_is_expected, world_init, runSteps_restartFree]
  simp only [List.filterMap_append, hR, List.nil_append, List.append_nil]
  rfl

/-- in a world that client commands alone have reached and whose flags say the index is uploaded: after any further
    commands and server restarts a search is answered, with the index and a token of one key `k` -/
theorem searchable_through_restarts {w : World} (h : C11.Reach w) (hd : (C11.flags w).dbUploaded = true)
    (steps : List Step) :
    ∃ k, (runSteps SSEPy.Generated.clientProgram w (steps ++ [.cmd .search])).2.getLast? = some (.result k k) := by
  obtain ⟨a, rfl⟩ := C11.reach_abstract h
  rw [C11.program_is_expected, runSteps_restartFree, List.filterMap_append]
  cases a with
  | fresh alive n => cases hd
  | mid c ks up alive n => cases hd
  | done c k n =>
    refine ⟨k, ?_⟩
    show ((AS.done c k n).run (steps.filterMap Step.cmd? ++ [.search])).2.getLast? = _
    rw [AS.run_snoc, AS.run_done, List.getLast?_concat]
    rfl

end SSEPy.C09
