/-
  C01 — Search returns the posting list of every stored keyword.

  `S.search_stored`, for each of the nine schemes: on an index that `setup` returned, `TokenGen` returns for a stored keyword
  (SSE-2, DP17: the token is given) and `Search` returns that keyword's identifier list, in order (DP17: the same set) — no
  exception, and the probe loop ends (`search` is not `.error .diverges`).  `S.setup_never_raises` (CT14, ANSS16, PiPtr, Pi2Lev,
  DP17, SSE-1): the model's `setup` fails only with `.miss`, which stands for recorded randomness that runs out or is not
  what the call could have drawn — `os.urandom` and `random` do neither, so `EDBSetup` raises nothing.  `S.correct` (PiBas,
  PiPack, SSE-2): `setup` returns and every stored keyword is found, in one statement.  What is partial about DP17 is said
  at its theorems.

  `LeafLaws lv` is what is assumed of the leaves: the AES block function is invertible on 16-byte blocks (C14 lifts that to
  `Decrypt(Encrypt(m)) = m`) and maps them to 16-byte blocks, HMAC-SHA1 digests have 20 bytes.
  The other hypotheses are about the run at hand, and each statement spells its own out (the bundles are defined in
  `Proofs/Schemes`): the labels this run computes do not collide (`NoColl`, `hnc`, `GammaInj`, `KeyInj`: true of HMAC
  outputs except with probability ≈ (#labels)²/2^(8·λ)); no IV-sized or key-sized draw is all zero (`GoodTape`: an all-zero
  IV would make the block parser stop early; `KeysGood`: an all-zero key reads as the list terminator); the keyword is
  still in the database after the padding loop, no dummy keyword overwrote it (`hpad`); the recorded `random.sample` and
  shuffles are such (`hsample`, `PermsGood`); the list fits the configuration (`hsz`, `hcap`, `hn`); DP17's `ProbesClean`.
  The driver evaluates Boolean counterparts of them on every recorded run (`S.hypsB`, in `Model/Schemes`); no theorem
  relates `S.hypsB = true` to the hypotheses as the statements spell them.

  Names: with `namespace SSEPy.C01` and `open SSEPy.Sch`, `S.x` is `C01.S.x` where this file declares it and `Sch.S.x`
  (in `Proofs/Schemes`) otherwise.
-/
import SSEPyVerif.Proofs.Schemes.SSE1
import SSEPyVerif.Proofs.Schemes.DP17Search
import SSEPyVerif.Proofs.Schemes.CT14Complete
import SSEPyVerif.Proofs.Schemes.ANSS16Complete
import SSEPyVerif.Proofs.Schemes.PiPtrComplete
import SSEPyVerif.Proofs.Schemes.Pi2LevComplete
import SSEPyVerif.Proofs.Schemes.DP17Complete
import SSEPyVerif.Proofs.Schemes.SSE2Complete
import SSEPyVerif.Proofs.Schemes.SSE1Complete
namespace SSEPy.C01
open SSEPy.Sch SSEPy.Sch.Chain

/-- PiBas and PiPack: the labels `encDb` stored (`L`) are pairwise distinct, and for every stored keyword the label one
    past the end of its chain is not among them (`EndFresh`: the probe loop stops there) -/
structure Chain.NoColl (cfg : ChainCfg) (lv : Leaves) (K : Bytes) (db : DB) (L : List (Bytes × Bytes)) : Prop where
  labels_distinct : (L.map (·.1)).Nodup
  end_fresh : ∀ w ids, (w, ids) ∈ db → EndFresh cfg lv K L w ids

/-- PiBas (schemes/CJJ14/PiBas) -/
theorem PiBas.search_stored (raw : RawCfg) (cfg : ChainCfg) (hcfg : PiBas.cfgBuild raw = .ok cfg)
    (lv : Leaves) (hl : LeafLaws lv) (K : Bytes) (db : DB) (t t' : Tape) (D : Table)
    (hs : Chain.setup cfg lv K db t = .ok (D, t'))
    (hnc : ∀ L, encDb cfg lv K db t = .ok (L, t') → Chain.NoColl cfg lv K db L)
    (w : Bytes) (ids : List Bytes) (hm : (w, ids) ∈ db) :
    ∃ tk, Chain.token cfg lv K w = .ok tk ∧ Chain.search cfg lv D tk = .ok ids := by
  obtain ⟨L, hL, rfl⟩ := setup_inv cfg lv hs
  have hno : Chain.NoColl cfg lv K db L := hnc L hL
  have hde : Decrypts cfg.ske lv := PiBas.dec_enc raw cfg hcfg lv hl
  exact search_present cfg lv hde hL hno.labels_distinct hm (PiBas.roundTrip hcfg ids) (hno.end_fresh w ids hm)

/-- PiPack (schemes/CJJ14/PiPack), for identifiers of exactly `param_identifier_size` bytes, none all zero (`hv`: an all-zero
    identifier reads as block padding).  Every accepted block size `param_B`: lists shorter than, equal to and longer
    than a block, and multiples of the block size alike. -/
theorem PiPack.search_stored (raw : RawCfg) (cfg : ChainCfg) (hcfg : PiPack.cfgBuild raw = .ok cfg)
    (lv : Leaves) (hl : LeafLaws lv) (K : Bytes) (db : DB) (t t' : Tape) (D : Table)
    (hs : Chain.setup cfg lv K db t = .ok (D, t'))
    (hnc : ∀ L, encDb cfg lv K db t = .ok (L, t') → Chain.NoColl cfg lv K db L)
    (w : Bytes) (ids : List Bytes) (hm : (w, ids) ∈ db) (hv : ValidIdsFor raw ids) :
    ∃ tk, Chain.token cfg lv K w = .ok tk ∧ Chain.search cfg lv D tk = .ok ids := by
  obtain ⟨L, hL, rfl⟩ := setup_inv cfg lv hs
  have hno : Chain.NoColl cfg lv K db L := hnc L hL
  have hde : Decrypts cfg.ske lv := PiPack.dec_enc raw cfg hcfg lv hl
  exact search_present cfg lv hde hL hno.labels_distinct hm (PiPack.roundTrip hcfg hv) (hno.end_fresh w ids hm)

/-- PiPtr (schemes/CJJ14/PiPtr): identifier blocks in the array at the recorded random positions, pointer blocks in a counter
    chain.  For a non-empty list of identifiers of the configured size, none all zero (`hv`).  `hsample` holds of every
    sample of `range(1, |A|)`. -/
theorem PiPtr.search_stored (raw : RawCfg) (cfg : PiPtrCfg) (hcfg : PiPtr.cfgBuild raw = .ok cfg) (lv : Leaves)
    (hl : LeafLaws lv) (K : Bytes) (db : DB) (t t' : Tape) (edb : PiPtrEDB)
    (hs : PiPtr.setup cfg lv K db t = .ok (edb, t'))
    (hsample : ∀ avail t0, takeNats t = .ok (avail, t0) → avail.Nodup ∧ ∀ p ∈ avail, 0 < p)
    (w : Bytes) (ids : List Bytes) (hm : (w, ids) ∈ db) (hne : ids ≠ []) (hv : C17.ValidIds ids cfg.idSize.toNat)
    (hnc : ∀ L A avail t0, takeNats t = .ok (avail, t0) →
      PiPtr.encDb cfg lv K (bytesFor (PiPtr.arrayLen cfg db)) db avail (List.replicate (PiPtr.arrayLen cfg db) none) t0 = .ok (L, A, t') →
      PiPtr.NoColl cfg lv K L w ids) :
    ∃ tk, PiPtr.token cfg lv K w = .ok tk ∧ PiPtr.search cfg lv edb tk = .ok ids := by
  obtain ⟨hg, hplain⟩ := PiPtr.cfgBuild_accepted hcfg
  obtain ⟨sample, t0, L, h1, _, h2, hD⟩ := PiPtr.setup_inv cfg lv hs
  obtain ⟨hnd, hpos⟩ := hsample sample t0 h1
  exact PiPtr.search_present cfg lv (hl.decrypts hplain) hg h2 hD hnd hpos hm hne hv (hnc L _ sample t0 h1 h2)

/-- ANSS16 Scheme 3 (schemes/ANSS16/Scheme3): the list is padded to 2^p entries and stored whole at level p; HT(S) holds its
    encrypted true length. -/
theorem ANSS16.search_stored (raw : RawCfg) (cfg : ANSSCfg) (hcfg : ANSS16.cfgBuild raw = .ok cfg) (lv : Leaves)
    (hl : LeafLaws lv) (K : Bytes) (db : DB) (t t' : Tape) (edb : ANSSEDB)
    (hs : ANSS16.setup cfg lv K db t = .ok (edb, t')) (hg : GoodTape t)
    (w : Bytes) (ids : List Bytes) (hidlen : ∀ x ∈ ids, x.length = cfg.idSize.toNat)
    (hpad : ∀ pdb t1, padLoop cfg.idSize.toNat (2 ^ clog2 db.total) (2 ^ clog2 db.total + 1) db db.total t = .ok (pdb, t1) →
      (w, ids) ∈ pdb)
    (hnc : ∀ SL TL, ANSS16.setupLists cfg lv K db t = .ok (SL, TL, t') →
      (SL.map (·.1)).Nodup ∧ ∀ l ∈ TL, (l.map (·.1)).Nodup) :
    ∃ tk, ANSS16.token cfg lv K w = .ok tk ∧ ANSS16.search cfg lv edb tk = .ok ids :=
  ANSS16.search_present hl.enc_len (hl.decrypts (ANSS16.cfgBuild_usable cfg raw hcfg).plain)
    hs hg w ids hidlen hpad hnc

/-- CT14 (schemes/CT14/Pi): the list is cut greedily into power-of-two chunks (`chunkAt`: a chunk at level j iff bit j of the
    length is set, starting where the higher bits end); the descending level scan of the search reassembles exactly the
    list — every length, in particular 1, powers of two and 2^k ± 1.  `CT14.NoColl` adds to distinct labels: at the levels
    where the keyword has no chunk its label is not stored. -/
theorem CT14.search_stored (raw : RawCfg) (cfg : CT14Cfg) (hcfg : CT14.cfgBuild raw = .ok cfg) (lv : Leaves)
    (hl : LeafLaws lv) (K : Bytes) (db : DB) (t t' : Tape) (HT : List Table)
    (hs : CT14.setup cfg lv K db t = .ok (HT, t')) (hg : GoodTape t)
    (w : Bytes) (ids : List Bytes) (hidlen : ∀ x ∈ ids, x.length = cfg.idSize.toNat)
    (hpad : ∀ pdb t1, padLoop cfg.idSize.toNat (2 ^ clog2 db.total) (2 ^ clog2 db.total + 1) db db.total t = .ok (pdb, t1) →
      (w, ids) ∈ pdb)
    (hnc : ∀ TL, CT14.setupLists cfg lv K db t = .ok (TL, t') → CT14.NoColl cfg lv K TL w ids) :
    ∃ tk, CT14.token cfg lv K w = .ok tk ∧ CT14.search cfg lv HT tk = .ok ids :=
  CT14.search_present hl.enc_len (hl.decrypts (CT14.cfgBuild_usable cfg raw hcfg).plain)
    hs hg w ids hidlen hpad hnc

/-- CT14: the chunks of the greedy decomposition, read from the highest level down as `Search` reads them, are the list,
    each identifier once and in order -/
theorem CT14.decomposition_covers (ids : List Bytes) (J : Nat) (h : ids.length < 2 ^ J) : CT14.scan ids J = ids :=
  CT14.scan_all ids J h

/-- SSE-1 (schemes/CGKO06/SSE1): per keyword a linked list of encrypted nodes at the addresses ψ_K1(ctr), and a look-up table
    entry that hides the first address and key.  No collision hypothesis on ψ: it is the bit-level format-preserving PRP on
    `log2_s`-bit counters, invertible by C15.  The array has at least 3 cells (`h2`); table labels of different keywords
    differ (`GammaInj`) and no byte string drawn in the run equals this keyword's label (`hfresh`; needed of the random filler
    keys). -/
theorem SSE1.search_stored (raw : RawCfg) (cfg : SSE1Cfg) (hcfg : SSE1.cfgBuild raw = .ok cfg) (lv : Leaves)
    (hl : LeafLaws lv) (h2 : 2 ≤ cfg.log2s) (K1 K2 K3 K4 : Bytes) (db : DB) (t t' : Tape) (edb : SSE1EDB)
    (hs : SSE1.setup cfg lv [K1, K2, K3, K4] db t = .ok (edb, t')) (hk : SSE1.KeysGood cfg t)
    (hidl : ∀ p ∈ db, ∀ x ∈ p.2, x.length = cfg.idSize.toNat) (hkeys : (db.map (·.1)).Nodup)
    (hg : SSE1.GammaInj cfg lv K3 db) (w : Bytes) (ids : List Bytes) (hm : (w, ids) ∈ db)
    (hsz : ids.length ≤ cfg.s.toNat)
    (hfresh : ∀ g, SSE1.piBytes cfg lv K3 w = .ok g → ∀ b, Draw.bytes b ∈ t → b ≠ g) :
    ∃ tk, SSE1.token cfg lv [K1, K2, K3, K4] w = .ok tk ∧ SSE1.search cfg lv edb tk = .ok ids :=
  SSE1.search_present hl (SSE1.cfgBuild_usable cfg raw hcfg) h2 hs hk hidl hkeys hg hm hfresh

/-- Pi2Lev (schemes/CJJ14/Pi2Lev): small lists inside the dictionary block, medium lists through one level of pointers,
    large lists through two; the level marks make the loop of `search` pick the right block capacity at each level.
    All three cases, every list length `EDBSetup` admits (the boundaries `b` and `B·b'` included; a list of exactly `B·B'·b'`
    identifiers is refused by the strict test of the large case, so for it `setup` does not return).  `hne`, `hv`,
    `hsample` as for PiPtr; `hidx`: the pointer width is positive (`param_B·idsize ≥ param_B'`). -/
theorem Pi2Lev.search_stored (raw : RawCfg) (cfg : Pi2LevCfg) (hcfg : Pi2Lev.cfgBuild raw = .ok cfg) (hidx : 0 < cfg.idxSize)
    (lv : Leaves) (hl : LeafLaws lv) (K : Bytes) (db : DB) (t t' : Tape) (edb : PiPtrEDB)
    (hs : Pi2Lev.setup cfg lv K db t = .ok (edb, t'))
    (hsample : ∀ avail t0, takeNats t = .ok (avail, t0) → avail.Nodup ∧ ∀ p ∈ avail, 0 < p)
    (w : Bytes) (ids : List Bytes) (hm : (w, ids) ∈ db) (hne : ids ≠ []) (hv : C17.ValidIds ids cfg.idSize.toNat)
    (hnc : ∀ L A avail t0, takeNats t = .ok (avail, t0) →
      Pi2Lev.encDb cfg lv K db avail (List.replicate (Pi2Lev.arrayLen cfg db) none) t0 = .ok (L, A, t') → (L.map (·.1)).Nodup) :
    ∃ tk, Pi2Lev.token cfg lv K w = .ok tk ∧ Pi2Lev.search cfg lv edb tk = .ok ids := by
  obtain ⟨hg, hplain⟩ := Pi2Lev.cfgBuild_accepted hcfg hidx
  obtain ⟨sample, t0, L, _, _, h1, _, h2, hD⟩ := Pi2Lev.setup_inv cfg lv hs
  obtain ⟨hnd, hpos⟩ := hsample sample t0 h1
  exact Pi2Lev.search_present cfg lv (hl.decrypts hplain) hg h2 hD hnd hpos hm hne hv (hnc L _ sample t0 h1 h2)

/-- SSE-2 (schemes/CGKO06/SSE2): the hypotheses are about this run's PRP values — the addresses `SSE2.writes` of the stored
    postings are pairwise distinct (`hinj`) and the address one past a list's end is not among them (`hend`) — and about
    capacity: the token has at least as many entries as the list (`hn`: `param_n` = number of distinct files ≥ any
    duplicate-free list) and no identifier occurs under more than `param_max` keywords (`hcap`: the filler loop does not
    run). -/
theorem SSE2.search_stored (cfg : SSE2Cfg) (lv : Leaves) (K1 : Bytes) (db : DB) (I : ITable)
    (hs : SSE2.setup cfg lv K1 db = .ok I)
    (hinj : ∀ ws, SSE2.writes cfg lv K1 db = .ok ws → (ws.map (·.1)).Nodup)
    (hcap : ∀ I0 cnt, SSE2.encDb cfg lv K1 db [] [] = .ok (I0, cnt) → ∀ p ∈ cnt, p.2 ≤ cfg.max)
    (w : Bytes) (ids : List Bytes) (hm : (w, ids) ∈ db) (hn : ids.length ≤ cfg.n.toNat)
    (hend : ids.length < cfg.n.toNat → ∀ a, SSE2.addr cfg lv K1 w ((1 + ids.length : Nat) : Int) = .ok a →
      ∀ ws, SSE2.writes cfg lv K1 db = .ok ws → a ∉ ws.map (·.1))
    (tk : List Nat) (htk : SSE2.token cfg lv K1 w = .ok tk) : SSE2.search I tk = ids := by
  have hws := SSE2.setup_index hs hcap hinj
  exact SSE2.search_writes hws (hinj I hws) htk ids (.inr hm) hn fun hlt a ha => hend hlt a ha I hws

/-- SSE-1 with no collision hypothesis on either permutation: π is the same invertible bit PRP, and keywords without a
    leading NUL byte have distinct integer encodings.  In place of `GammaInj`: no keyword starts with a NUL byte (`hvalid`,
    the validity condition of the property) and the keyword field has at least 2 bits (`hl8`). -/
theorem SSE1.search_stored_valid (raw : RawCfg) (cfg : SSE1Cfg) (hcfg : SSE1.cfgBuild raw = .ok cfg) (lv : Leaves)
    (hl : LeafLaws lv) (h2 : 2 ≤ cfg.log2s) (hl8 : 2 ≤ (cfg.l * 8).toNat) (K1 K2 K3 K4 : Bytes) (db : DB) (t t' : Tape)
    (edb : SSE1EDB) (hs : SSE1.setup cfg lv [K1, K2, K3, K4] db t = .ok (edb, t')) (hk : SSE1.KeysGood cfg t)
    (hidl : ∀ p ∈ db, ∀ x ∈ p.2, x.length = cfg.idSize.toNat) (hkeys : (db.map (·.1)).Nodup)
    (hvalid : ∀ p ∈ db, NoLeadingNul p.1) (w : Bytes) (ids : List Bytes) (hm : (w, ids) ∈ db)
    (hsz : ids.length ≤ cfg.s.toNat)
    (hfresh : ∀ g, SSE1.piBytes cfg lv K3 w = .ok g → ∀ b, Draw.bytes b ∈ t → b ≠ g) :
    ∃ tk, SSE1.token cfg lv [K1, K2, K3, K4] w = .ok tk ∧ SSE1.search cfg lv edb tk = .ok ids :=
  SSE1.search_stored raw cfg hcfg lv hl h2 K1 K2 K3 K4 db t t' edb hs hk hidl hkeys
    (SSE1.gammaInj_of_noLeadingNul cfg lv hl.hmac_len hl8 K3 db hvalid) w ids hm hsz hfresh

/-- SSE-2 with no collision hypothesis: the bit PRP is invertible (C15) and the encoding `keyword ‖ counter` is injective on
    keywords without a leading NUL byte.  In place of `hinj` and `hend`: `hvalid`, distinct keywords, and positive widths
    of the keyword and counter fields (`hl8`, `hbits`). -/
theorem SSE2.search_stored_valid (cfg : SSE2Cfg) (lv : Leaves) (hl : LeafLaws lv) (hl8 : 0 < (cfg.l * 8).toNat)
    (hbits : 0 < cfg.bitsNM) (K1 : Bytes) (db : DB) (I : ITable)
    (hs : SSE2.setup cfg lv K1 db = .ok I) (hkeys : (db.map (·.1)).Nodup) (hvalid : ∀ p ∈ db, NoLeadingNul p.1)
    (hcap : ∀ I0 cnt, SSE2.encDb cfg lv K1 db [] [] = .ok (I0, cnt) → ∀ p ∈ cnt, p.2 ≤ cfg.max)
    (w : Bytes) (ids : List Bytes) (hm : (w, ids) ∈ db) (hn : ids.length ≤ cfg.n.toNat)
    (tk : List Nat) (htk : SSE2.token cfg lv K1 w = .ok tk) : SSE2.search I tk = ids := by
  have hget : db.get w = ids := DB.get_of_mem hkeys hm
  have hlen : (db.get w).length ≤ cfg.n.toNat := by
    rw [hget]
    exact hn
  rw [← hget]
  exact SSE2.search_setup hl.hmac_len hl8 hbits hkeys hvalid hs hcap (hvalid _ hm) hlen htk

/-- DP17 (schemes/DP17/Pi), the half of C01 that needs the leaf laws only: no identifier is missed.  When the search for a
    stored keyword returns, the result contains every identifier of the keyword's list — whatever the number of levels,
    the random choice of buckets, the shuffles and the padding.  The hash-table keys `H(F_k1(w) ‖ c)` of the chunks are
    pairwise different (`KeyInj`) and no random filler key equals one of them (`hfresh`); every recorded shuffle is a
    permutation (`PermsGood`).  `∀ levels, levelsOf cfg N = .ok levels →` only names the level list of this database:
    `levelsOf` always returns.  Why it holds: the level search returns a level that holds the list in at most `L` chunks, so
    the `L` probes reach every chunk; a chunk's hash-table entry decodes to its level and bucket; the bucket is a whole
    number of equally long ciphertexts, one of which decrypts under `F_k3(w)` to `id ‖ 0^λ`.

    Partial with respect to C01's "exactly": that the search returns, and returns nothing else, needs that trial decryption
    of a foreign or dummy cell under `F_k3(w)` does not end in `0^λ`, and that a probe beyond the last chunk misses the
    hash table: facts about AES and HMAC outputs that do not follow from the leaf laws (the correspondence check compares
    the whole result on every recorded run).  `DP17.search_stored` takes both as hypotheses about this run's probes. -/
theorem DP17.search_stored_partial (raw : RawCfg) (cfg : DP17Cfg) (hcfg : DP17.cfgBuild raw = .ok cfg) (lv : Leaves)
    (hl : LeafLaws lv) (k1 k2 k3 : Bytes) (db : DB) (t t' : Tape) (edb : DP17EDB)
    (hs : DP17.setup cfg lv [k1, k2, k3] db t = .ok (edb, t')) (hkeys : (db.map (·.1)).Nodup)
    (hidl : ∀ p ∈ db, ∀ id ∈ p.2, (id.length : Int) = cfg.idSize)
    (hinj : ∀ levels, DP17.levelsOf cfg db.total = .ok levels → DP17.KeyInj cfg lv k1 levels db) (hperm : DP17.PermsGood t)
    (hfresh : ∀ levels, DP17.levelsOf cfg db.total = .ok levels → ∀ b, Draw.bytes b ∈ t → ∀ w ids c, (w, ids) ∈ db → 1 ≤ c →
      c ≤ DP17.nChunks cfg levels ids → DP17.htKey cfg lv k1 w c ≠ .ok b)
    (w : Bytes) (ids : List Bytes) (hm : (w, ids) ∈ db) (tk : List Bytes) (htk : DP17.token cfg lv [k1, k2, k3] w = .ok tk)
    (res : List Bytes) (hres : DP17.search cfg lv edb tk = .ok res) : ∀ id ∈ ids, id ∈ res :=
  DP17.search_finds_all cfg lv
    { built := hcfg, laws := hl, setupOk := hs, keys := hkeys, idLen := hidl, keyInj := hinj _ (DP17.levelsOf_eq cfg _),
      perms := hperm, fresh := hfresh _ (DP17.levelsOf_eq cfg _), mem := hm }
    htk hres

/-- DP17, the full statement: the search for a stored keyword returns — no KeyError from `A_dict[i]`, no IndexError from
    `A_dict[i][offset]`, no error from the mask XOR or from cutting the bucket — and its result is, as a set, the keyword's
    list.  Two more facts about this run:
    `ProbesClean` — whatever a probe under this keyword's token yields belongs to the keyword, i.e. trial decryption of a
    foreign or dummy cell under `F_k3(w)` does not end in `0^λ` (an AES fact outside the leaf laws: the one place where
    "nothing extra" is assumed, not derived); and the probes `nChunks < count ≤ L` miss the hash table (`hbeyond`). -/
theorem DP17.search_stored (raw : RawCfg) (cfg : DP17Cfg) (hcfg : DP17.cfgBuild raw = .ok cfg) (lv : Leaves)
    (hl : LeafLaws lv) (k1 k2 k3 : Bytes) (db : DB) (t t' : Tape) (edb : DP17EDB)
    (hs : DP17.setup cfg lv [k1, k2, k3] db t = .ok (edb, t')) (hkeys : (db.map (·.1)).Nodup)
    (hidl : ∀ p ∈ db, ∀ id ∈ p.2, (id.length : Int) = cfg.idSize)
    (hinj : ∀ levels, DP17.levelsOf cfg db.total = .ok levels → DP17.KeyInj cfg lv k1 levels db) (hperm : DP17.PermsGood t)
    (hfresh : ∀ levels, DP17.levelsOf cfg db.total = .ok levels → ∀ b, Draw.bytes b ∈ t → ∀ w ids c, (w, ids) ∈ db → 1 ≤ c →
      c ≤ DP17.nChunks cfg levels ids → DP17.htKey cfg lv k1 w c ≠ .ok b)
    (w : Bytes) (ids : List Bytes) (hm : (w, ids) ∈ db) (tag vtag etag : Bytes)
    (htk : DP17.token cfg lv [k1, k2, k3] w = .ok [tag, vtag, etag])
    (hclean : DP17.ProbesClean cfg lv edb tag vtag etag ids)
    (hbeyond : ∀ levels, DP17.levelsOf cfg db.total = .ok levels → ∀ c, DP17.nChunks cfg levels ids < c → c ≤ cfg.L.toNat →
      ∃ key, DP17.hashH cfg lv (tag ++ natToBytesMin c) = .ok key ∧ edb.HT.get key = none) :
    ∃ res, DP17.search cfg lv edb [tag, vtag, etag] = .ok res ∧ ∀ id, id ∈ res ↔ id ∈ ids :=
  DP17.search_present cfg lv
    { built := hcfg, laws := hl, setupOk := hs, keys := hkeys, idLen := hidl, keyInj := hinj _ (DP17.levelsOf_eq cfg _),
      perms := hperm, fresh := hfresh _ (DP17.levelsOf_eq cfg _), mem := hm }
    htk hclean (hbeyond _ (DP17.levelsOf_eq cfg _))

/-- DP17 with the cryptographic assumption in its textbook form, `WrongKeyRejected` in place of `ProbesClean`: under
    `F_k3(w)` trial decryption accepts neither a dummy nor another keyword's ciphertext.  `WrongKeyRejected` speaks of
    cells the real search never decrypts, so the driver cannot evaluate it from a recorded run; it evaluates `ProbesClean`
    itself. -/
theorem DP17.search_stored_of_wrongKey (raw : RawCfg) (cfg : DP17Cfg) (hcfg : DP17.cfgBuild raw = .ok cfg) (lv : Leaves)
    (hl : LeafLaws lv) (k1 k2 k3 : Bytes) (db : DB) (t t' : Tape) (edb : DP17EDB)
    (hs : DP17.setup cfg lv [k1, k2, k3] db t = .ok (edb, t')) (hkeys : (db.map (·.1)).Nodup)
    (hidl : ∀ p ∈ db, ∀ id ∈ p.2, (id.length : Int) = cfg.idSize)
    (hinj : ∀ levels, DP17.levelsOf cfg db.total = .ok levels → DP17.KeyInj cfg lv k1 levels db) (hperm : DP17.PermsGood t)
    (hfresh : ∀ levels, DP17.levelsOf cfg db.total = .ok levels → ∀ b, Draw.bytes b ∈ t → ∀ w ids c, (w, ids) ∈ db → 1 ≤ c →
      c ≤ DP17.nChunks cfg levels ids → DP17.htKey cfg lv k1 w c ≠ .ok b)
    (w : Bytes) (ids : List Bytes) (hm : (w, ids) ∈ db) (tag vtag etag : Bytes)
    (htk : DP17.token cfg lv [k1, k2, k3] w = .ok [tag, vtag, etag])
    (hwk : DP17.WrongKeyRejected cfg lv k3 db t w etag)
    (hbeyond : ∀ levels, DP17.levelsOf cfg db.total = .ok levels → ∀ c, DP17.nChunks cfg levels ids < c → c ≤ cfg.L.toNat →
      ∃ key, DP17.hashH cfg lv (tag ++ natToBytesMin c) = .ok key ∧ edb.HT.get key = none) :
    ∃ res, DP17.search cfg lv edb [tag, vtag, etag] = .ok res ∧ ∀ id, id ∈ res ↔ id ∈ ids :=
  DP17.search_stored raw cfg hcfg lv hl k1 k2 k3 db t t' edb hs hkeys hidl hinj hperm hfresh w ids hm tag vtag etag htk
    (DP17.probesClean_of_wrongKey cfg lv hcfg hl hs hkeys hidl hm htk hwk) hbeyond

/-- DP17 without `ProbesClean` and `hbeyond`: a stored list has at most `param_L` chunks, and the probe for each of them
    returns -/
theorem DP17.probes_of_stored_chunks_return (raw : RawCfg) (cfg : DP17Cfg) (hcfg : DP17.cfgBuild raw = .ok cfg) (lv : Leaves)
    (hl : LeafLaws lv) (k1 k2 k3 : Bytes) (db : DB) (t t' : Tape) (edb : DP17EDB)
    (hs : DP17.setup cfg lv [k1, k2, k3] db t = .ok (edb, t')) (hkeys : (db.map (·.1)).Nodup)
    (hidl : ∀ p ∈ db, ∀ id ∈ p.2, (id.length : Int) = cfg.idSize)
    (hinj : ∀ levels, DP17.levelsOf cfg db.total = .ok levels → DP17.KeyInj cfg lv k1 levels db) (hperm : DP17.PermsGood t)
    (hfresh : ∀ levels, DP17.levelsOf cfg db.total = .ok levels → ∀ b, Draw.bytes b ∈ t → ∀ w ids c, (w, ids) ∈ db → 1 ≤ c →
      c ≤ DP17.nChunks cfg levels ids → DP17.htKey cfg lv k1 w c ≠ .ok b)
    (w : Bytes) (ids : List Bytes) (hm : (w, ids) ∈ db) (tag vtag etag : Bytes)
    (htk : DP17.token cfg lv [k1, k2, k3] w = .ok [tag, vtag, etag]) :
    ∃ levels, DP17.levelsOf cfg db.total = .ok levels ∧ DP17.nChunks cfg levels ids ≤ cfg.L.toNat ∧
      ∀ c, 1 ≤ c → c ≤ DP17.nChunks cfg levels ids → ∃ key here, DP17.hashH cfg lv (tag ++ natToBytesMin c) = .ok key ∧
        DP17.searchOne cfg lv edb vtag etag c key = .ok here :=
  ⟨_, DP17.levelsOf_eq cfg _, DP17.probes_return cfg lv
    { built := hcfg, laws := hl, setupOk := hs, keys := hkeys, idLen := hidl, keyInj := hinj _ (DP17.levelsOf_eq cfg _),
      perms := hperm, fresh := hfresh _ (DP17.levelsOf_eq cfg _), mem := hm }
    htk⟩

/-- PiBas: in a configuration `_parse_config` accepts with `prf_f_output_length = param_lambda`, the outputs of `prf_f` have the
    length of its own keys and of the keys of `ske`, which is `param_lambda` -/
theorem PiBas.runnable (raw : RawCfg) (cfg : ChainCfg) (hcfg : PiBas.cfgBuild raw = .ok cfg)
    (hout : getInt raw "prf_f_output_length" = getInt raw "param_lambda") : Chain.Runnable cfg ∧ cfg.prfF.keyLength = cfg.lambda := by
  obtain ⟨out, p⟩ := PiBas.cfgBuild_inv hcfg
  -- the builder passes `prf_f_output_length` and `param_lambda` to `HmacPRF` and `param_lambda` to `AES`: with `hout`,
  -- one number
  cases p.getLambda.symm.trans (hout.symm.trans p.getOut)
  have hk : KeysFit cfg.prfF cfg.ske cfg.lambda := keysFit_of_new p.ske p.prfF
  exact ⟨hk.chainRunnable, hk.fKey⟩

/-- PiBas: `EDBSetup` returns, for a configuration with `prf_f_output_length = param_lambda`, on every tape that supplies
    one 16-byte IV per posting (`Chain.Supplies`) -/
theorem PiBas.setup_returns (raw : RawCfg) (cfg : ChainCfg) (hcfg : PiBas.cfgBuild raw = .ok cfg)
    (hout : getInt raw "prf_f_output_length" = getInt raw "param_lambda") (lv : Leaves) (hl : LeafLaws lv)
    (K : Bytes) (hK : (K.length : Int) = cfg.lambda) (db : DB) (t : Tape) (hs : Chain.Supplies db.total t) :
    ∃ D t', Chain.setup cfg lv K db t = .ok (D, t') := by
  obtain ⟨hr, hkl⟩ := PiBas.runnable raw cfg hcfg hout
  have hpack := PiBas.pack_eq hcfg
  refine Chain.setup_returns cfg lv hl.hmac_len hr K db t (hK.trans hkl.symm) (fun p _ => ⟨p.2, hpack p.2⟩) ?_
  -- PiBas packs nothing: one block, so one IV, per posting
  have : db.map (nBlocks cfg) = db.map (·.2.length) := List.map_congr_left fun p _ => nBlocks_eq cfg (hpack p.2)
  rwa [this]

/-- PiBas, C01 in one statement: `EDBSetup` returns (`PiBas.setup_returns`) and, when the labels of the run do not collide
    (`hnc`), `Search` with the token of a stored keyword returns its list -/
theorem PiBas.correct (raw : RawCfg) (cfg : ChainCfg) (hcfg : PiBas.cfgBuild raw = .ok cfg)
    (hout : getInt raw "prf_f_output_length" = getInt raw "param_lambda") (lv : Leaves) (hl : LeafLaws lv)
    (K : Bytes) (hK : (K.length : Int) = cfg.lambda) (db : DB) (t : Tape) (hs : Chain.Supplies db.total t)
    (hnc : ∀ L t', encDb cfg lv K db t = .ok (L, t') → Chain.NoColl cfg lv K db L) :
    ∃ D t', Chain.setup cfg lv K db t = .ok (D, t') ∧ ∀ w ids, (w, ids) ∈ db →
      ∃ tk, Chain.token cfg lv K w = .ok tk ∧ Chain.search cfg lv D tk = .ok ids := by
  obtain ⟨D, t', hset⟩ := PiBas.setup_returns raw cfg hcfg hout lv hl K hK db t hs
  exact ⟨D, t', hset, fun w ids hm =>
    PiBas.search_stored raw cfg hcfg lv hl K db t t' D hset (fun L hL => hnc L t' hL) w ids hm⟩

example : Chain.Supplies 2 [.bytes (zeros 16), .bytes (zeros 16)] := by simp [Chain.Supplies, zeros]

/-- PiPack: as `PiBas.correct`, on every database (the packer accepts any list for positive `param_B`), with one 16-byte IV
    per block; `Search` is claimed for the keywords with valid identifiers (`ValidIdsFor`). -/
theorem PiPack.correct (raw : RawCfg) (cfg : ChainCfg) (hcfg : PiPack.cfgBuild raw = .ok cfg)
    (hout : getInt raw "prf_f_output_length" = getInt raw "param_lambda") (lv : Leaves) (hl : LeafLaws lv)
    (K : Bytes) (hK : (K.length : Int) = cfg.lambda) (db : DB) (t : Tape)
    (hs : Chain.Supplies (db.map (Chain.nBlocks cfg)).sum t)
    (hnc : ∀ L t', encDb cfg lv K db t = .ok (L, t') → Chain.NoColl cfg lv K db L) :
    ∃ D t', Chain.setup cfg lv K db t = .ok (D, t') ∧ ∀ w ids, (w, ids) ∈ db → ValidIdsFor raw ids →
      ∃ tk, Chain.token cfg lv K w = .ok tk ∧ Chain.search cfg lv D tk = .ok ids := by
  obtain ⟨D, t', hset⟩ := PiPack.setup_returns hcfg hout hl.hmac_len hK hs
  exact ⟨D, t', hset, fun w ids hm hv =>
    PiPack.search_stored raw cfg hcfg lv hl K db t t' D hset (fun L hL => hnc L t' hL) w ids hm hv⟩

/-- CT14.  No IndexError: a chunk of `2^j` identifiers goes to level `j ≤ ⌊log2 |DB(w)|⌋ ≤ t` and the index has `t + 1`
    levels (a list of exactly `2^t` postings is an instance: /repo commit f819d98); no ValueError from the PRFs or the
    cipher: the halves of `F(K, w)` have the lengths `F'` and the cipher take as keys. -/
theorem CT14.setup_never_raises (raw : RawCfg) (cfg : CT14Cfg) (hcfg : CT14.cfgBuild raw = .ok cfg) (lv : Leaves)
    (hl : LeafLaws lv) (K : Bytes) (hK : (K.length : Int) = cfg.k) (db : DB) (t : Tape) (hne : db ≠ [])
    (hlists : ∀ p ∈ db, 1 ≤ p.2.length) (e : Err) (h : CT14.setup cfg lv K db t = .error e) : e = .miss :=
  CT14.setup_onlyMiss cfg lv hl (CT14.cfgBuild_usable cfg raw hcfg) K hK db t hne hlists e h

/-- ANSS16 (`hkk`: the scheme uses one cipher object for both keys).  No OverflowError: every list length fits the
    `⌈(t+1)/8⌉`-byte length field (`2^t < 256^⌈(t+1)/8⌉`; /repo commit 7b4d508); no IndexError: a list padded to `2^p`
    entries has `p ≤ t`. -/
theorem ANSS16.setup_never_raises (raw : RawCfg) (cfg : ANSSCfg) (hcfg : ANSS16.cfgBuild raw = .ok cfg)
    (hkk : cfg.kPrime = cfg.k) (lv : Leaves) (hl : LeafLaws lv) (K : Bytes) (db : DB) (t : Tape) (hne : db ≠ [])
    (hlists : ∀ p ∈ db, 1 ≤ p.2.length) (e : Err) (h : ANSS16.setup cfg lv K db t = .error e) : e = .miss :=
  ANSS16.setup_onlyMiss cfg lv hl (ANSS16.cfgBuild_usable cfg raw hcfg) hkk K db t hne hlists e h

/-- PiPtr, any database (`hsample`: the entries of the recorded `random.sample` are below `|A|`, as those of a sample of
    `range(1, |A|)` are).  No IndexError from popping a free slot (the sample has exactly as many entries as there are
    identifier blocks) or from writing the array; every slot number fits the pointer width `bytesFor |A|` (with which the
    float `⌈log2 |A| / 8⌉` of the code agrees under the size assumption of DESIGN section 5: then no OverflowError). -/
theorem PiPtr.setup_never_raises (raw : RawCfg) (cfg : PiPtrCfg) (hcfg : PiPtr.cfgBuild raw = .ok cfg)
    (hout : getInt raw "prf_f_output_length" = getInt raw "param_lambda") (lv : Leaves) (hl : LeafLaws lv)
    (K : Bytes) (hK : (K.length : Int) = cfg.lambda) (db : DB) (t : Tape)
    (hsample : ∀ sample t0, takeNats t = .ok (sample, t0) → ∀ p ∈ sample, p < PiPtr.arrayLen cfg db)
    (e : Err) (h : PiPtr.setup cfg lv K db t = .error e) : e = .miss :=
  PiPtr.setup_onlyMiss cfg lv hl.hmac_len (PiPtr.cfgBuild_usable hcfg hout) K hK db t hsample e h

/-- DP17: there is always room — in the keyword loop of `_Enc` (`encDb`, started on the levels `initLevels` returned and an
    empty hash table) `random.choice` never sees an empty list of buckets.  Level `i` is an array of `2N + 2^(i+1)` cells
    in buckets of `2^(i+1)`; while at most `N` postings are stored on it, some bucket has at least `2^i` free cells
    (`DP17.room_exists`): this is what the constant `2N + 2^(i+1)` is for.  The hash-table update raises no IndexError
    either: the mask `H(F_k2(w) ‖ count)` has exactly the bytes of the `level ‖ bucket` field.  `hd0`, `hsha`:
    `DP17.ShaLen lv d` spelt out (`d` is not `cfg.dsz`: see there).  Partial with respect to "EDBSetup never raises": one
    loop of `_Enc`, one exception, and the level search is a hypothesis (`hfa`). -/
theorem DP17.room_for_every_chunk_partial (cfg : DP17Cfg) (lv : Leaves) (k1 k2 : Bytes) (levels : List Int) (db : DB)
    (ls0 : List Level) (t : Tape) (hinit : DP17.initLevels db.total levels [] = .ok ls0)
    (hfa : ∀ p ∈ db, ∃ i : Nat, DP17.findAdjacent cfg levels p.2.length = .ok (i : Int))
    (d : Nat) (hd0 : 0 < d) (hsha : ∀ m, (lv.sha m).length = d) :
    ∀ e, DP17.encDb cfg lv k1 k2 levels db ls0 [] t = .error e → e ≠ .indexError := by
  intro e h
  have hhas : ∀ i ∈ levels, i ∈ ls0.map (·.lev) := fun i hi => (DP17.initLevels_inv hinit).2 i (.inl hi)
  have hN : 0 + db.total ≤ db.total := Nat.le_of_eq (Nat.zero_add _)
  refine DP17.encDb_raises cfg lv (· ≠ .indexError) (by decide) (DP17.LInv.initLevels hinit) hN hhas hfa ?_ h
  -- what the hash-table update raises, a PRF call or the encoding of an integer raised: no IndexError
  intro w count i x c HT e' _ _ he
  exact DP17.htInsert_ne_indexError cfg lv ⟨hd0, hsha⟩ he

/-- DP17: the same with the level search (`_find_adjacent_i`, a binary search) included, when `param_L ≥ 0`, the level list
    ascends (`hasc`), has no negative level (`hnn`) and for each list some level holds it (`hfits`; in the level list
    `_Enc` computes the last level is `⌈log2 N⌉`, which does for `param_L ≥ 1`: `L · 2^⌈log2 N⌉ ≥ N ≥ |DB(w)|`).  The
    hypotheses on the level list are facts about `N` and the configuration that cannot be proved of the model's
    `levelsOf` (see `DP17.levelsList`).  They fail for the level ratios noted in DESIGN.md 11.3, where the code computes
    negative levels. -/
theorem DP17.enc_no_index_error (cfg : DP17Cfg) (lv : Leaves) (k1 k2 : Bytes) (levels : List Int) (db : DB)
    (ls0 : List Level) (t : Tape) (hinit : DP17.initLevels db.total levels [] = .ok ls0) (hL : 0 ≤ cfg.L)
    (hasc : ∀ (i j : Nat) (a b : Int), i ≤ j → levels[i]? = some a → levels[j]? = some b → a ≤ b)
    (hnn : ∀ a ∈ levels, 0 ≤ a) (hfits : ∀ p ∈ db, ∃ a ∈ levels, DP17.fits cfg a p.2.length = true)
    (d : Nat) (hd0 : 0 < d) (hsha : ∀ m, (lv.sha m).length = d) :
    ∀ e, DP17.encDb cfg lv k1 k2 levels db ls0 [] t = .error e → e ≠ .indexError := by
  have hfa : ∀ p ∈ db, ∃ i : Nat, DP17.findAdjacent cfg levels p.2.length = .ok (i : Int) := fun p hp =>
    (DP17.findAdjacent_returns cfg levels p.2.length hL hasc hnn (hfits p hp)).imp fun _ h => h.1
  exact DP17.room_for_every_chunk_partial cfg lv k1 k2 levels db ls0 t hinit hfa d hd0 hsha

/-- Pi2Lev: every list shorter than `B·B'·b'` (the two-level limit, `hcap`), an array that the pointer width can address
    (`hfit`), `hsample` as for PiPtr.  The array has a free slot for every block that is stored: `⌈n/B⌉` identifier blocks
    for a medium or large list and, for a large one, `⌈⌈n/B⌉/B'⌉ = ⌈n/(B·B')⌉` first-level pointer blocks — the count
    `EDBSetup` sizes the array with. -/
theorem Pi2Lev.setup_never_raises (raw : RawCfg) (cfg : Pi2LevCfg) (hcfg : Pi2Lev.cfgBuild raw = .ok cfg)
    (hidx : 0 < cfg.idxSize) (hout : getInt raw "prf_f_output_length" = getInt raw "param_lambda")
    (lv : Leaves) (hl : LeafLaws lv) (K : Bytes) (hK : (K.length : Int) = cfg.lambda) (db : DB) (t : Tape)
    (hcap : ∀ p ∈ db, (p.2.length : Int) < (cfg.B * cfg.Bp) * cfg.bp)
    (hfit : Pi2Lev.arrayLen cfg db ≤ 2 ^ (cfg.idxSize * 8).toNat)
    (hsample : ∀ sample t0, takeNats t = .ok (sample, t0) → ∀ p ∈ sample, p < Pi2Lev.arrayLen cfg db)
    (e : Err) (h : Pi2Lev.setup cfg lv K db t = .error e) : e = .miss :=
  Pi2Lev.setup_onlyMiss cfg lv hl.hmac_len (Pi2Lev.cfgBuild_usable hcfg hidx hout) K hK db t hcap hfit hsample e h

/-- DP17.  Excluded by proof: the level search finds the first level that fits, every level of the list has its bucket
    array, `random.choice` always has a bucket with room, the `level ‖ bucket` field and its xor mask have the same width,
    the PRF and cipher keys have the lengths they are declared with.  `hlv`: the hypotheses of `enc_no_index_error` on the
    level list, and level numbers and bucket indices fit their halves of the hash-table value, `cfg.dsz / 2` and
    `cfg.dsz - cfg.dsz / 2` bytes; for the level ratios of DESIGN.md 11.3 they fail and the code itself raises. -/
theorem DP17.setup_never_raises (raw : RawCfg) (cfg : DP17Cfg) (hcfg : DP17.cfgBuild raw = .ok cfg) (lv : Leaves)
    (hl : LeafLaws lv) (d : Nat) (hd0 : 0 < d) (hsha : ∀ m, (lv.sha m).length = d)
    (k1 k2 k3 : Bytes) (h1 : (k1.length : Int) = cfg.lambda) (h2 : (k2.length : Int) = cfg.lambda)
    (h3 : (k3.length : Int) = cfg.lambda) (db : DB) (t : Tape) (hN : db.total ≠ 0)
    (hlv : ∀ levels, DP17.levelsOf cfg db.total = .ok levels →
      (∀ (i j : Nat) (a b : Int), i ≤ j → levels[i]? = some a → levels[j]? = some b → a ≤ b) ∧
      (∀ a ∈ levels, 0 ≤ a) ∧ (∀ p ∈ db, ∃ a ∈ levels, DP17.fits cfg a p.2.length = true) ∧
      ∀ i : Nat, (i : Int) ∈ levels → i < 256 ^ (cfg.dsz / 2) ∧
        (DP17.sizesOf db.total (i : Int)).length ≤ 256 ^ (cfg.dsz - cfg.dsz / 2))
    (e : Err) (h : DP17.setup cfg lv [k1, k2, k3] db t = .error e) : e = .miss := by
  obtain ⟨hu, hL⟩ := DP17.cfgBuild_usable cfg raw hcfg
  obtain ⟨hasc, hnn, hfits, hw⟩ := hlv _ (DP17.levelsOf_eq cfg _)
  have hfa : ∀ p ∈ db, ∃ i : Nat, DP17.findAdjacent cfg (DP17.levelsList cfg db.total) p.2.length = .ok (i : Int) :=
    fun p hp => (DP17.findAdjacent_returns cfg _ p.2.length (Int.le_of_lt hL) hasc hnn (hfits p hp)).imp fun _ h => h.1
  exact DP17.setup_onlyMiss cfg lv hl.hmac_len hu ⟨hd0, hsha⟩ k1 k2 k3 h1 h2 h3 db t hN hnn hfa hw e h

/-- SSE-2, with no hypothesis about the run (SSE-2 draws no randomness in `EDBSetup` / `TokenGen`): a key half of `param_k`
    bytes and a valid database — distinct keywords without a leading NUL byte and of at most `param_l` bytes, at most
    `param_n` identifiers per keyword, no identifier posted more than `param_max` times.  The address arithmetic — the
    keyword fits its `8·l`-bit field, every counter up to `param_n` fits the `bits(n + max)`-bit field because
    `determine_param_max` of a positive size is positive, the PRP is called with the widths it was declared with — is
    proved, not assumed. -/
theorem SSE2.correct (raw : RawCfg) (cfg : SSE2Cfg) (hcfg : SSE2.cfgBuild raw = .ok cfg) (lv : Leaves) (hl : LeafLaws lv)
    (K1 : Bytes) (hK : (K1.length : Int) = cfg.k) (db : DB) (hkeys : (db.map (·.1)).Nodup)
    (hvalid : ∀ p ∈ db, NoLeadingNul p.1 ∧ (p.1.length : Int) ≤ cfg.l ∧ p.2.length ≤ cfg.n.toNat)
    (hcap : ∀ id, (db.flatMap (·.2)).count id ≤ cfg.max) :
    ∃ I, SSE2.setup cfg lv K1 db = .ok I ∧
      ∀ w ids, (w, ids) ∈ db → ∃ tk, SSE2.token cfg lv K1 w = .ok tk ∧ SSE2.search I tk = ids := by
  obtain ⟨hu, hn⟩ := SSE2.cfgBuild_usable cfg raw hcfg
  have hnul : ∀ p ∈ db, NoLeadingNul p.1 := fun p hp => (hvalid p hp).1
  have hfit : ∀ p ∈ db, (p.1.length : Int) ≤ cfg.l ∧ p.2.length < 2 ^ cfg.bitsNM := by
    intro p hp
    obtain ⟨_, hwl, hlen⟩ := hvalid p hp
    exact ⟨hwl, Nat.lt_of_le_of_lt hlen hn⟩
  obtain ⟨I, hI⟩ := SSE2.setup_ok' cfg lv hl.hmac_len hu K1 hK db hfit hcap
  refine ⟨I, hI, fun w ids hm => ?_⟩
  obtain ⟨_, hwl, hlen⟩ := hvalid _ hm
  obtain ⟨tk, htk⟩ := SSE2.token_returns cfg lv hl.hmac_len hu K1 w hK hwl hn
  exact ⟨tk, htk, SSE2.search_stored_valid cfg lv hl hu.lbits hu.bits K1 db I hI hkeys hnul
    (SSE2.cap_of_count cfg lv K1 db hcap) w ids hm hlen tk htk⟩

/-- SSE-1, when the array size `param_s` is a power of two (`hs`, at least 4; for another `param_s` the code itself raises:
    DESIGN.md 11.3) and there are fewer than `param_s` postings.  Excluded: a counter that does not fit `log2 s` bits
    (ValueError), an address beyond the array (IndexError — a ψ value is below `s`), a mask longer than `address ‖ key`
    (IndexError), a refusal by the PRF, the PRPs or the cipher. -/
theorem SSE1.setup_never_raises (raw : RawCfg) (cfg : SSE1Cfg) (hcfg : SSE1.cfgBuild raw = .ok cfg) (lv : Leaves)
    (hl : LeafLaws lv) (h2 : 2 ≤ cfg.log2s) (hs : cfg.s.toNat = 2 ^ cfg.log2s) (K1 K2 K3 K4 : Bytes)
    (h1 : (K1.length : Int) = cfg.k) (hk2 : (K2.length : Int) = cfg.k) (h3 : (K3.length : Int) = cfg.k)
    (db : DB) (t : Tape) (hdb : ∀ p ∈ db, (p.1.length : Int) ≤ cfg.l ∧ p.2 ≠ []) (hN : db.total < cfg.s.toNat)
    (e : Err) (h : SSE1.setup cfg lv [K1, K2, K3, K4] db t = .error e) : e = .miss :=
  SSE1.setup_onlyMiss cfg lv hl (SSE1.cfgBuild_usable cfg raw hcfg) h2 K1 K2 K3 K4 h1 hk2 h3 db t hs hdb hN e h

end SSEPy.C01
