/-
  C03 — Client/server split: search works from serialized key, token and index alone.

  The concatenation formats of keys (all nine schemes) and tokens (seven): `deserialize (serialize x) = x` when the fields
  have the widths the parser cuts at (`wire_roundtrip`), any other total length is refused, and generated keys
  (`S.key_roundtrip`) and the tokens `TokenGen` produces (`S.token_roundtrip`: six schemes, not PiPack) have those widths.
  `S.wire_is_source`: the widths of the model are the ones `structures.py` cuts at.  Of an encrypted database the envelope
  `header ‖ pickled parts` is modelled (`edb_*`); `pickle` itself (the parts of an index, results, the tokens of SSE-2 and
  DP17) and `json` (configurations) are library codecs, exercised by the direct oracle on the real code.  A remote search
  is not modelled: `search` in the model takes the deserialized objects.
-/
import SSEPyVerif.Model.Schemes.Wire
import SSEPyVerif.Generated.WireLayout
import SSEPyVerif.Proofs.Schemes.Chain
import SSEPyVerif.Proofs.Schemes.ANSS16
import SSEPyVerif.Proofs.Schemes.CT14
import SSEPyVerif.Proofs.Schemes.SSE1Complete
namespace SSEPy.C03
open SSEPy.Sch

theorem wire_roundtrip (widths : List Nat) (parts : List Bytes) (h : parts.map (·.length) = widths) :
    wireDeser widths (wireSer parts) = .ok parts := split_flatten widths parts h

/-- `deserialize` of a concatenation format raises ValueError on a byte string whose length is not the sum of the widths -/
theorem wire_wrong_length_refused (widths : List Nat) (x : Bytes) (h : x.length ≠ widths.sum) :
    wireDeser widths x = .error .valueError := C17.split_mismatch_raises x widths h

/-- what `deserialize` returns is the input cut at the configured widths: the parts, joined, are what was sent -/
theorem wire_parse_widths (widths : List Nat) (x : Bytes) (parts : List Bytes) (h : wireDeser widths x = .ok parts) :
    parts.flatten = x ∧ parts.map (·.length) = widths :=
  ⟨C17.split_concat x widths parts h, splitBytes_lens h⟩

/-- PiBas and PiPack -/
theorem Chain.key_roundtrip (cfg : ChainCfg) (t t' : Tape) (K : Bytes) (h : Chain.keyGen cfg t = .ok (K, t')) :
    wireDeser cfg.wire.key (wireSer [K]) = .ok [K] := by
  unfold Chain.keyGen at h
  have hlen : K.length = cfg.lambda.toNat := urandom_len h
  exact wire_roundtrip [cfg.lambda.toNat] [K] (congrArg (· :: []) hlen)

/-- PiBas, every accepted configuration.  `huse`: the token's first component is accepted as a PRF key, as every successful
    search requires. -/
theorem PiBas.token_roundtrip (raw : RawCfg) (cfg : ChainCfg) (hcfg : PiBas.cfgBuild raw = .ok cfg) (lv : Leaves)
    (hl : LeafLaws lv) (K w K1 K2 : Bytes) (htk : Chain.token cfg lv K w = .ok (K1, K2))
    (l0 : Bytes) (huse : cfg.prfF.call lv.hmac K1 (natToBytesMin 0) = .ok l0) :
    wireDeser (cfg.wire.token.getD []) (wireSer [K1, K2]) = .ok [K1, K2] := by
  obtain ⟨h1, h2⟩ := PiBas.token_lens hcfg hl.hmac_len htk huse
  exact wire_roundtrip _ _ (by simp only [ChainCfg.wire, Option.getD_some, List.map_cons, List.map_nil, h1, h2])

/-- ANSS16: a generated key has `param_lambda` bytes, the length the key parser checks (/repo commit 0c28862) -/
theorem ANSS16.key_roundtrip (cfg : ANSSCfg) (t t' : Tape) (K : Bytes) (h : ANSS16.keyGen cfg t = .ok (K, t')) :
    wireDeser cfg.wire.key (wireSer [K]) = .ok [K] :=
  wire_roundtrip _ _ (congrArg (· :: []) (urandom_len h))

/-- ANSS16: every token `_Trap` produces has the four widths `[l, k, l', k']` of the token parser -/
theorem ANSS16.token_roundtrip (cfg : ANSSCfg) (lv : Leaves) (K w : Bytes) (tk : ANSSToken)
    (h : ANSS16.token cfg lv K w = .ok tk) :
    wireDeser (cfg.wire.token.getD []) (wireSer [tk.li, tk.Ki, tk.liP, tk.KiP]) = .ok [tk.li, tk.Ki, tk.liP, tk.KiP] := by
  obtain ⟨h1, h2, h3, h4⟩ := ANSS16.token_lens h
  have hw : [tk.li, tk.Ki, tk.liP, tk.KiP].map (·.length) = cfg.wire.token.getD [] := by
    simp only [ANSSCfg.wire, Option.getD_some, List.map_cons, List.map_nil, h1, h2, h3, h4]
  exact wire_roundtrip _ _ hw

theorem CT14.key_roundtrip (cfg : CT14Cfg) (t t' : Tape) (K : Bytes) (h : CT14.keyGen cfg t = .ok (K, t')) :
    wireDeser cfg.wire.key (wireSer [K]) = .ok [K] :=
  wire_roundtrip _ _ (congrArg (· :: []) (urandom_len h))

/-- CT14: a token is `F(K, w)` cut at `param_k`; when the PRF's output has `k + k'` bytes (`hout`) the two parts have the
    parser's widths.  The statement has no builder: `hk`, `hk'`, `hout`, `hh` are hypotheses on the configuration record,
    true of every configuration `CT14.cfgBuild` returns (`CT14.cfgBuild_usable`). -/
theorem CT14.token_roundtrip (cfg : CT14Cfg) (lv : Leaves) (hl : LeafLaws lv) (hk : 0 ≤ cfg.k) (hk' : 0 ≤ cfg.kPrime)
    (hout : cfg.prfF.outputLength = cfg.k + cfg.kPrime) (hh : cfg.prfF.hashLen = 20) (K w K0 K1 : Bytes)
    (h : CT14.token cfg lv K w = .ok (K0, K1)) :
    wireDeser (cfg.wire.token.getD []) (wireSer [K0, K1]) = .ok [K0, K1] := by
  obtain ⟨h0, h1⟩ := CT14.token_lens hl hh hout hk hk' h
  have hw : [K0, K1].map (·.length) = cfg.wire.token.getD [] := by
    simp only [CT14Cfg.wire, Option.getD_some, List.map_cons, List.map_nil, h0, h1]
  exact wire_roundtrip _ _ hw

theorem PiPtr.key_roundtrip (cfg : PiPtrCfg) (t t' : Tape) (K : Bytes) (h : PiPtr.keyGen cfg t = .ok (K, t')) :
    wireDeser cfg.wire.key (wireSer [K]) = .ok [K] := by
  unfold PiPtr.keyGen at h
  have hlen : K.length = cfg.lambda.toNat := urandom_len h
  exact wire_roundtrip [cfg.lambda.toNat] [K] (congrArg (· :: []) hlen)

theorem Pi2Lev.key_roundtrip (cfg : Pi2LevCfg) (t t' : Tape) (K : Bytes) (h : Pi2Lev.keyGen cfg t = .ok (K, t')) :
    wireDeser cfg.wire.key (wireSer [K]) = .ok [K] := by
  unfold Pi2Lev.keyGen at h
  have hlen : K.length = cfg.lambda.toNat := urandom_len h
  exact wire_roundtrip [cfg.lambda.toNat] [K] (congrArg (· :: []) hlen)

/-- SSE-1: the four generated keys have `param_k` bytes each -/
theorem SSE1.key_roundtrip (cfg : SSE1Cfg) (t t' : Tape) (Ks : List Bytes) (h : SSE1.keyGen cfg t = .ok (Ks, t')) :
    wireDeser cfg.wire.key (wireSer Ks) = .ok Ks :=
  wire_roundtrip _ _ (urandomN_lens h)

/-- DP17: the three generated keys have `param_lambda` bytes each -/
theorem DP17.key_roundtrip (cfg : DP17Cfg) (t t' : Tape) (Ks : List Bytes) (h : DP17.keyGen cfg t = .ok (Ks, t')) :
    wireDeser cfg.wire.key (wireSer Ks) = .ok Ks :=
  wire_roundtrip _ _ (urandomN_lens h)

theorem SSE2.key_roundtrip (cfg : SSE2Cfg) (t t' : Tape) (a b : Bytes) (h : SSE2.keyGen cfg t = .ok (a, b, t')) :
    wireDeser cfg.wire.key (wireSer [a, b]) = .ok [a, b] := by
  simp only [SSE2.keyGen, ok_inv] at h
  obtain ⟨_, ⟨a', t1⟩, h1, ⟨b', t2⟩, h2, h⟩ := h
  cases h
  have hw : [a', b'].map (·.length) = cfg.wire.key := by
    rw [List.map_cons, List.map_cons, takeBytes_len h1, takeBytes_len h2]
    rfl
  exact wire_roundtrip _ _ hw

/-- PiPtr: a token is two PRF outputs; when the PRF's output has `param_lambda` bytes (`hout`: what a working
    configuration declares — K1 is used as a PRF key of `param_lambda` bytes) both have the parser's width.  No builder
    here either: `hh` holds of every configuration `PiPtr.cfgBuild` returns, `hout` of those with
    `prf_f_output_length = param_lambda`. -/
theorem PiPtr.token_roundtrip (cfg : PiPtrCfg) (lv : Leaves) (hl : LeafLaws lv) (hh : cfg.prfF.hashLen = 20)
    (hout : cfg.prfF.outputLength = cfg.lambda) (K w K1 K2 : Bytes) (h : PiPtr.token cfg lv K w = .ok (K1, K2)) :
    wireDeser (cfg.wire.token.getD []) (wireSer [K1, K2]) = .ok [K1, K2] := by
  obtain ⟨h1, h2⟩ := token_inv hl.hmac_len hh h
  exact wire_roundtrip _ _ (by simp only [PiPtrCfg.wire, Option.getD_some, List.map_cons, List.map_nil, h1, h2, hout])

/-- Pi2Lev: as `PiPtr.token_roundtrip` -/
theorem Pi2Lev.token_roundtrip (cfg : Pi2LevCfg) (lv : Leaves) (hl : LeafLaws lv) (hh : cfg.prfF.hashLen = 20)
    (hout : cfg.prfF.outputLength = cfg.lambda) (K w K1 K2 : Bytes) (h : Pi2Lev.token cfg lv K w = .ok (K1, K2)) :
    wireDeser (cfg.wire.token.getD []) (wireSer [K1, K2]) = .ok [K1, K2] := by
  obtain ⟨h1, h2⟩ := token_inv hl.hmac_len hh h
  exact wire_roundtrip _ _ (by simp only [Pi2LevCfg.wire, Option.getD_some, List.map_cons, List.map_nil, h1, h2, hout])

/-- SSE-1: a token is `(π_K3(w), f_K2(w))` — a label of exactly `param_l` bytes (π is the bit PRP on `8·l` bits) and a mask
    of `param_k + ⌈log2 s / 8⌉` bytes (the PRF's declared output length): the two widths of the token parser, for every
    accepted configuration -/
theorem SSE1.token_roundtrip (raw : RawCfg) (cfg : SSE1Cfg) (hcfg : SSE1.cfgBuild raw = .ok cfg) (lv : Leaves)
    (hl : LeafLaws lv) (K1 K2 K3 K4 w gamma eta : Bytes) (h : SSE1.token cfg lv [K1, K2, K3, K4] w = .ok (gamma, eta)) :
    wireDeser (cfg.wire.token.getD []) (wireSer [gamma, eta]) = .ok [gamma, eta] := by
  obtain ⟨lg, le⟩ := SSE1.token_lens hl (SSE1.cfgBuild_usable cfg raw hcfg) h
  have hw : [gamma, eta].map (·.length) = cfg.wire.token.getD [] := by
    simp only [SSE1Cfg.wire, Option.getD_some, List.map_cons, List.map_nil, lg, le]
  exact wire_roundtrip _ _ hw

/-! `S.wire_is_source`.  `Generated/WireLayout.lean` (regenerated from the source on every run) holds, per scheme and
  object, the length `deserialize` insists on and the widths it cuts at, as functions of the configuration's fields.  For
  every configuration they coincide with the widths of the wire model (`*.wire`), the checked length is the sum of the
  cut widths (so a parse that passes the check consumes exactly the input), `serialize` joins as many fields as
  `deserialize` cuts, and the objects the model treats as pickled are pickled in the source.  A changed offset, a swapped
  field, a check against another parameter changes the generated file and these theorems stop checking. -/

open SSEPy.Generated.Wire

theorem PiBas.wire_is_source (c : ChainCfg) :
    (PiBas_key_widths c.field).map Int.toNat = c.wire.key ∧ (PiBas_token_widths c.field).map Int.toNat = c.wire.token.getD [] ∧
    PiBas_key_check c.field = (PiBas_key_widths c.field).sum ∧ PiBas_token_check c.field = (PiBas_token_widths c.field).sum ∧
    PiBas_key_fields.length = (PiBas_key_widths c.field).length ∧ PiBas_token_fields.length = (PiBas_token_widths c.field).length := by
  have hf : c.field "param_lambda" = c.lambda := rfl
  unfold PiBas_key_widths PiBas_token_widths PiBas_key_check PiBas_token_check ChainCfg.wire
  rw [hf]
  have l := lambda_layout c.lambda
  exact ⟨l.1, l.2.1, l.2.2.1, l.2.2.2, rfl, rfl⟩

theorem PiPack.wire_is_source (c : ChainCfg) :
    (PiPack_key_widths c.field).map Int.toNat = c.wire.key ∧ (PiPack_token_widths c.field).map Int.toNat = c.wire.token.getD [] ∧
    PiPack_key_check c.field = (PiPack_key_widths c.field).sum ∧ PiPack_token_check c.field = (PiPack_token_widths c.field).sum ∧
    PiPack_key_fields.length = (PiPack_key_widths c.field).length ∧ PiPack_token_fields.length = (PiPack_token_widths c.field).length := by
  have hf : c.field "param_lambda" = c.lambda := rfl
  unfold PiPack_key_widths PiPack_token_widths PiPack_key_check PiPack_token_check ChainCfg.wire
  rw [hf]
  have l := lambda_layout c.lambda
  exact ⟨l.1, l.2.1, l.2.2.1, l.2.2.2, rfl, rfl⟩

theorem PiPtr.wire_is_source (c : PiPtrCfg) :
    (PiPtr_key_widths c.field).map Int.toNat = c.wire.key ∧ (PiPtr_token_widths c.field).map Int.toNat = c.wire.token.getD [] ∧
    PiPtr_key_check c.field = (PiPtr_key_widths c.field).sum ∧ PiPtr_token_check c.field = (PiPtr_token_widths c.field).sum ∧
    PiPtr_key_fields.length = (PiPtr_key_widths c.field).length ∧ PiPtr_token_fields.length = (PiPtr_token_widths c.field).length := by
  have hf : c.field "param_lambda" = c.lambda := rfl
  unfold PiPtr_key_widths PiPtr_token_widths PiPtr_key_check PiPtr_token_check PiPtrCfg.wire
  rw [hf]
  have l := lambda_layout c.lambda
  exact ⟨l.1, l.2.1, l.2.2.1, l.2.2.2, rfl, rfl⟩

theorem Pi2Lev.wire_is_source (c : Pi2LevCfg) :
    (Pi2Lev_key_widths c.field).map Int.toNat = c.wire.key ∧ (Pi2Lev_token_widths c.field).map Int.toNat = c.wire.token.getD [] ∧
    Pi2Lev_key_check c.field = (Pi2Lev_key_widths c.field).sum ∧ Pi2Lev_token_check c.field = (Pi2Lev_token_widths c.field).sum ∧
    Pi2Lev_key_fields.length = (Pi2Lev_key_widths c.field).length ∧ Pi2Lev_token_fields.length = (Pi2Lev_token_widths c.field).length := by
  have hf : c.field "param_lambda" = c.lambda := rfl
  unfold Pi2Lev_key_widths Pi2Lev_token_widths Pi2Lev_key_check Pi2Lev_token_check Pi2LevCfg.wire
  rw [hf]
  have l := lambda_layout c.lambda
  exact ⟨l.1, l.2.1, l.2.2.1, l.2.2.2, rfl, rfl⟩

theorem CT14.wire_is_source (c : CT14Cfg) :
    (CT14_key_widths c.field).map Int.toNat = c.wire.key ∧ (CT14_token_widths c.field).map Int.toNat = c.wire.token.getD [] ∧
    CT14_key_check c.field = (CT14_key_widths c.field).sum ∧ CT14_token_check c.field = (CT14_token_widths c.field).sum ∧
    CT14_key_fields.length = (CT14_key_widths c.field).length ∧ CT14_token_fields.length = (CT14_token_widths c.field).length := by
  refine ⟨?_, ?_, ?_, ?_, rfl, rfl⟩ <;>
    simp [CT14_key_widths, CT14_token_widths, CT14_key_check, CT14_token_check, CT14Cfg.field, CT14Cfg.wire] <;> omega

theorem ANSS16.wire_is_source (c : ANSSCfg) :
    (ANSS16_key_widths c.field).map Int.toNat = c.wire.key ∧ (ANSS16_token_widths c.field).map Int.toNat = c.wire.token.getD [] ∧
    ANSS16_key_check c.field = (ANSS16_key_widths c.field).sum ∧ ANSS16_token_check c.field = (ANSS16_token_widths c.field).sum ∧
    ANSS16_key_fields.length = (ANSS16_key_widths c.field).length ∧ ANSS16_token_fields.length = (ANSS16_token_widths c.field).length := by
  refine ⟨?_, ?_, ?_, ?_, rfl, rfl⟩ <;>
    simp [ANSS16_key_widths, ANSS16_token_widths, ANSS16_key_check, ANSS16_token_check, ANSSCfg.field,
      ANSSCfg.wire] <;> omega

/-- SSE-1: the key parser cuts `len / param_k` pieces of `param_k` bytes — four, for a positive key length -/
theorem SSE1.wire_is_source (c : SSE1Cfg) (hk : 0 < c.k) :
    (SSE1_key_widths c.field).map Int.toNat = c.wire.key ∧ (SSE1_token_widths c.field).map Int.toNat = c.wire.token.getD [] ∧
    SSE1_key_check c.field = (SSE1_key_widths c.field).sum ∧ SSE1_token_check c.field = (SSE1_token_widths c.field).sum ∧
    SSE1_key_fields.length = (SSE1_key_widths c.field).length ∧ SSE1_token_fields.length = (SSE1_token_widths c.field).length := by
  have h4 : ((4 : Int) * c.k / c.k).toNat = 4 := by
    rw [Int.mul_ediv_cancel _ (by omega)]; rfl
  refine ⟨?_, ?_, ?_, ?_, ?_, rfl⟩
  · simp [SSE1_key_widths, SSE1Cfg.field, SSE1Cfg.wire, h4, List.replicate]
  · simp [SSE1_token_widths, SSE1Cfg.field, SSE1Cfg.wire]; omega
  · simp [SSE1_key_widths, SSE1_key_check, SSE1Cfg.field, h4, List.replicate]; omega
  · simp [SSE1_token_widths, SSE1_token_check, SSE1Cfg.field]; omega
  · simp [SSE1_key_widths, SSE1_key_fields, SSE1Cfg.field, h4]

/-- SSE-2: the key is two halves of `param_k` bytes; the token is pickled in the source as in the model -/
theorem SSE2.wire_is_source (c : SSE2Cfg) (hk : 0 < c.k) :
    (SSE2_key_widths c.field).map Int.toNat = c.wire.key ∧ SSE2_key_check c.field = (SSE2_key_widths c.field).sum ∧
    SSE2_key_fields.length = (SSE2_key_widths c.field).length ∧ SSE2_token_pickled = true ∧ c.wire.token = none := by
  have h2 : ((2 : Int) * c.k / c.k).toNat = 2 := by
    rw [Int.mul_ediv_cancel _ (by omega)]; rfl
  refine ⟨?_, ?_, ?_, rfl, rfl⟩
  · simp [SSE2_key_widths, SSE2Cfg.field, SSE2Cfg.wire, h2, List.replicate]
  · simp [SSE2_key_widths, SSE2_key_check, SSE2Cfg.field, h2, List.replicate]; omega
  · simp [SSE2_key_widths, SSE2_key_fields, SSE2Cfg.field, h2]

/-- DP17: three keys of `param_lambda` bytes; the token is pickled in the source as in the model -/
theorem DP17.wire_is_source (c : DP17Cfg) :
    (DP17_key_widths c.field).map Int.toNat = c.wire.key ∧ DP17_key_check c.field = (DP17_key_widths c.field).sum ∧
    DP17_key_fields.length = (DP17_key_widths c.field).length ∧ DP17_token_pickled = true ∧ c.wire.token = none := by
  refine ⟨?_, ?_, rfl, rfl, rfl⟩
  · simp [DP17_key_widths, DP17Cfg.field, DP17Cfg.wire, List.replicate]
  · simp [DP17_key_widths, DP17_key_check, DP17Cfg.field, List.replicate]
    omega

/-- no concatenation format is pickled in the source: the nine key formats and the seven token formats (SSE-2 and DP17
    pickle their tokens: `SSE2.`/`DP17.wire_is_source`) -/
theorem concatenation_formats_are_not_pickled :
    PiBas_key_pickled = false ∧ PiBas_token_pickled = false ∧ PiPack_key_pickled = false ∧ PiPack_token_pickled = false ∧
    PiPtr_key_pickled = false ∧ PiPtr_token_pickled = false ∧ Pi2Lev_key_pickled = false ∧ Pi2Lev_token_pickled = false ∧
    CT14_key_pickled = false ∧ CT14_token_pickled = false ∧ ANSS16_key_pickled = false ∧ ANSS16_token_pickled = false ∧
    SSE1_key_pickled = false ∧ SSE1_token_pickled = false ∧ SSE2_key_pickled = false ∧ DP17_key_pickled = false := by
  decide

/-- `deserialize` of an encrypted database gives back the pickled payload `serialize` put behind the scheme's header, for
    every header and payload -/
theorem edb_envelope_roundtrip (hdr payload : Bytes) : edbDeser hdr (edbSer hdr payload) = .ok payload := by
  simp [edbDeser, edbSer]

/-- with a codec that round-trips (`loads (dumps x) = x`: the law assumed of `pickle`) an encrypted database in its
    envelope round-trips -/
theorem edb_roundtrip {α : Type} (dumps : α → Bytes) (loads : Bytes → Except Err α) (hcodec : ∀ x, loads (dumps x) = .ok x)
    (hdr : Bytes) (e : α) : (edbDeser hdr (edbSer hdr (dumps e))).bind loads = .ok e := by
  rw [edb_envelope_roundtrip]
  exact hcodec e

/-- bytes that do not start with the scheme's header are refused with ValueError -/
theorem edb_wrong_header_refused (hdr x : Bytes) (h : x.take hdr.length ≠ hdr) : edbDeser hdr x = .error .valueError := by
  simp [edbDeser, h]

/-- in the source (`Generated/WireLayout.lean`): every `deserialize` of an encrypted database checks the header it cuts off, the nine
    headers are pairwise different (an index of one scheme is refused by every other scheme), and the parts are handed to the
    constructor in the order `serialize` pickled them -/
theorem edb_envelopes_are_source :
    (ANSS16_edb_checks_header && CT14_edb_checks_header && DP17_edb_checks_header && Pi2Lev_edb_checks_header &&
     PiBas_edb_checks_header && PiPack_edb_checks_header && PiPtr_edb_checks_header && SSE1_edb_checks_header &&
     SSE2_edb_checks_header) = true ∧
    [ANSS16_edb_header, CT14_edb_header, DP17_edb_header, Pi2Lev_edb_header, PiBas_edb_header, PiPack_edb_header,
     PiPtr_edb_header, SSE1_edb_header, SSE2_edb_header].Nodup ∧
    ANSS16_edb_ser_fields = ANSS16_edb_deser_fields ∧ CT14_edb_ser_fields = CT14_edb_deser_fields ∧
    DP17_edb_ser_fields = DP17_edb_deser_fields ∧ Pi2Lev_edb_ser_fields = Pi2Lev_edb_deser_fields ∧
    PiBas_edb_ser_fields = PiBas_edb_deser_fields ∧ PiPack_edb_ser_fields = PiPack_edb_deser_fields ∧
    PiPtr_edb_ser_fields = PiPtr_edb_deser_fields ∧ SSE1_edb_ser_fields = SSE1_edb_deser_fields ∧
    SSE2_edb_ser_fields = SSE2_edb_deser_fields := by
  decide

end SSEPy.C03
