/-
  C06 — Index layout does not encode the order in which the database was supplied.

  (a) Every label-addressed table of PiBas, PiPack, PiPtr, Pi2Lev, CT14 and ANSS16 is a `buildTable` (`S.index_is_table`,
      `S.index_is_tables`), the model of `kv_pairs.sort(key=…); {k: v for k, v in kv_pairs}` (the correspondence compares
      the stored order of the real dict with it): for distinct labels the stored label sequence is sorted and depends only
      on the set of labels (`table_labels_sorted`, `table_labels_order_free`), so supplying the keywords in another order
      changes nothing (`Chain.labels_perm_invariant`: whole runs of PiBas and PiPack).
  (b) Blocks kept in arrays are placed where the random object says, not in input order: the recorded `random.sample`
      (`PiPtr.placement_is_sample`, `placement_order_free`, `placement_is_random_image`; `Pi2Lev.placement_is_sample`),
      ψ_K1 of the node counter (`SSE1.placement_is_prp_image`), the recorded `random.choice`
      (`DP17.chunks_go_where_the_choices_say`: one keyword's chunks, not a whole `setup`).  The correspondence replays
      the recorded choices and must reproduce every array cell; that two set-ups choose differently is a statement about
      `random` / the PRP, outside any theorem: the direct oracle samples it on databases with ≥ 12 array-resident blocks.
-/
import SSEPyVerif.Proofs.Schemes.Chain
import SSEPyVerif.Proofs.Schemes.CT14
import SSEPyVerif.Proofs.Schemes.ANSS16
import SSEPyVerif.Proofs.Schemes.PiPtr
import SSEPyVerif.Proofs.Schemes.Pi2Lev
import SSEPyVerif.Proofs.Schemes.SSE1
import SSEPyVerif.Proofs.Schemes.DP17
namespace SSEPy.C06
open SSEPy.Sch

theorem table_labels_sorted (ps : List (Bytes × Bytes)) (hn : (ps.map (·.1)).Nodup) :
    ((buildTable ps).map (·.1)).Pairwise (fun a b => bytesLe a b = true) := buildTable_sorted ps hn

theorem table_labels_order_free (ps qs : List (Bytes × Bytes)) (hn : (ps.map (·.1)).Nodup)
    (hp : (ps.map (·.1)).Perm (qs.map (·.1))) :
    (buildTable ps).map (·.1) = (buildTable qs).map (·.1) := buildTable_keys_perm ps qs hn hp

theorem Chain.index_is_table (cfg : ChainCfg) (lv : Leaves) (K : Bytes) (db : DB) (t t' : Tape) (D : Table)
    (h : Chain.setup cfg lv K db t = .ok (D, t')) : ∃ L, D = buildTable L := by
  obtain ⟨L, _, rfl⟩ := Chain.setup_inv cfg lv h
  exact ⟨L, rfl⟩

theorem PiPtr.index_is_table (cfg : PiPtrCfg) (lv : Leaves) (K : Bytes) (db : DB) (t t' : Tape) (e : PiPtrEDB)
    (h : PiPtr.setup cfg lv K db t = .ok (e, t')) : ∃ L, e.D = buildTable L := by
  obtain ⟨_, _, L, _, _, _, hD⟩ := PiPtr.setup_inv cfg lv h
  exact ⟨L, hD⟩

theorem Pi2Lev.index_is_table (cfg : Pi2LevCfg) (lv : Leaves) (K : Bytes) (db : DB) (t t' : Tape) (e : PiPtrEDB)
    (h : Pi2Lev.setup cfg lv K db t = .ok (e, t')) : ∃ L, e.D = buildTable L := by
  obtain ⟨_, _, L, _, _, _, _, _, hD⟩ := Pi2Lev.setup_inv cfg lv h
  exact ⟨L, hD⟩

theorem CT14.index_is_tables (cfg : CT14Cfg) (lv : Leaves) (K : Bytes) (db : DB) (t t' : Tape) (HT : List Table)
    (h : CT14.setup cfg lv K db t = .ok (HT, t')) : ∃ Ls : List (List (Bytes × Bytes)), HT = Ls.map buildTable := by
  obtain ⟨TL, _, rfl⟩ := CT14.setup_inv h
  exact ⟨TL, rfl⟩

theorem ANSS16.index_is_tables (cfg : ANSSCfg) (lv : Leaves) (K : Bytes) (db : DB) (t t' : Tape) (e : ANSSEDB)
    (h : ANSS16.setup cfg lv K db t = .ok (e, t')) :
    (∃ S, e.HTS = buildTable S) ∧ ∃ Ls : List (List (Bytes × Bytes)), e.HTL = Ls.map buildTable := by
  obtain ⟨SL, TL, _, rfl⟩ := ANSS16.setup_inv h
  exact ⟨⟨SL, rfl⟩, ⟨TL, rfl⟩⟩

/-- PiBas and PiPack, whole runs: the same key, the database with its keywords in any other order, any randomness —
    the label sequence of the stored index is the same, when the labels of the first run are distinct (`hn`) -/
theorem Chain.labels_perm_invariant (cfg : ChainCfg) (lv : Leaves) (K : Bytes) (db db' : DB) (hp : db.Perm db')
    (t t1 u u1 : Tape) (D D' : Table)
    (h : Chain.setup cfg lv K db t = .ok (D, t1)) (h' : Chain.setup cfg lv K db' u = .ok (D', u1))
    (hn : ∀ L, Chain.encDb cfg lv K db t = .ok (L, t1) → (L.map (·.1)).Nodup) :
    D.map (·.1) = D'.map (·.1) := by
  obtain ⟨L, hL, rfl⟩ := Chain.setup_inv cfg lv h
  obtain ⟨L', hL', rfl⟩ := Chain.setup_inv cfg lv h'
  exact buildTable_keys_perm L L' (hn L hL) (Chain.labels_perm cfg lv hp hL hL')

/-- PiPtr: after setup, array slot `i` holds an identifier block iff `i` is among the last `n` entries of the recorded
    `random.sample(range(1, |A|), |A| - 1)`, `n` = number of identifier blocks.  Placement is a function of the random
    sample and of `n` only: keywords, their order and their contents do not enter. -/
theorem PiPtr.placement_is_sample (cfg : PiPtrCfg) (lv : Leaves) (K : Bytes) (db : DB) (t t' : Tape) (edb : PiPtrEDB)
    (h : PiPtr.setup cfg lv K db t = .ok (edb, t')) (sample : List Nat) (t0 : Tape) (hs : takeNats t = .ok (sample, t0)) :
    ∀ i, PiPtr.Occupied edb.A i ↔ i ∈ sample.drop (sample.length - PiPtr.nBlocks cfg db) := by
  obtain ⟨sample', t0', L, h1, _, h2, _⟩ := PiPtr.setup_inv cfg lv h
  rw [hs] at h1
  cases h1
  exact PiPtr.encDb_slots cfg lv h2

/-- PiPtr: two set-ups that draw the same sample occupy the same array slots whenever the databases have the same number of
    identifier blocks — in particular the same database with its keywords supplied in any other order -/
theorem PiPtr.placement_order_free (cfg : PiPtrCfg) (lv : Leaves) (K K' : Bytes) (db db' : DB) (t t1 u u1 : Tape)
    (edb edb' : PiPtrEDB) (h : PiPtr.setup cfg lv K db t = .ok (edb, t1)) (h' : PiPtr.setup cfg lv K' db' u = .ok (edb', u1))
    (sample : List Nat) (t0 u0 : Tape) (hs : takeNats t = .ok (sample, t0)) (hs' : takeNats u = .ok (sample, u0))
    (hn : PiPtr.nBlocks cfg db = PiPtr.nBlocks cfg db') :
    ∀ i, PiPtr.Occupied edb.A i ↔ PiPtr.Occupied edb'.A i := by
  intro i
  rw [PiPtr.placement_is_sample cfg lv K db t t1 edb h sample t0 hs i,
    PiPtr.placement_is_sample cfg lv K' db' u u1 edb' h' sample u0 hs' i, hn]

/-- PiPtr, per keyword (what Search reads): the blocks of the keyword processed after the keywords `pre` sit, in order, at
    `sample.reverse[m], …, sample.reverse[m + k - 1]` with `m` = number of blocks of `pre` and `k` = its own number of
    blocks — the image under the recorded random sample of an index segment that depends on the database only through
    block counts; keyword bytes, identifier bytes and the key do not enter. -/
theorem PiPtr.placement_is_random_image (cfg : PiPtrCfg) (lv : Leaves) (hl : LeafLaws lv) (hplain : PlainSke cfg.ske)
    (K : Bytes) (pre : DB) (w : Bytes) (ids : List Bytes) (post : DB) (t t' : Tape) (edb : PiPtrEDB)
    (h : PiPtr.setup cfg lv K (pre ++ (w, ids) :: post) t = .ok (edb, t'))
    (sample : List Nat) (t0 : Tape) (hs : takeNats t = .ok (sample, t0)) (hn : sample.Nodup) :
    ∃ K1 K2 blocks poss ptrs, PiPtr.token cfg lv K w = .ok (K1, K2) ∧ partitionBlocks ids cfg.B cfg.idSize = .ok blocks ∧
      PiPtr.Placed cfg lv K2 (bytesFor (PiPtr.arrayLen cfg (pre ++ (w, ids) :: post))) edb.A blocks poss ptrs ∧
      poss = (sample.reverse.drop (PiPtr.nBlocks cfg pre)).take (PiPtr.kwBlocks cfg ids) := by
  obtain ⟨sample', t0', L, h1, _, h2, _⟩ := PiPtr.setup_inv cfg lv h
  rw [hs] at h1
  cases h1
  exact PiPtr.encDb_segment cfg lv (hl.decrypts hplain) h2 hn

/-- Pi2Lev: after setup the occupied array slots — identifier blocks and second-level pointer blocks of every storage class
    alike — are exactly a tail of the recorded `random.sample(range(1, |A|), |A| - 1)`.  The statement leaves the length
    `n` of the tail open (`∃ n ≤ |sample|`; `setup` pops one slot per stored block); which slots are occupied depends on
    the database through `n` alone. -/
theorem Pi2Lev.placement_is_sample (cfg : Pi2LevCfg) (lv : Leaves) (K : Bytes) (db : DB) (t t' : Tape) (edb : PiPtrEDB)
    (h : Pi2Lev.setup cfg lv K db t = .ok (edb, t')) (sample : List Nat) (t0 : Tape) (hs : takeNats t = .ok (sample, t0)) :
    ∃ n, n ≤ sample.length ∧ ∀ i, PiPtr.Occupied edb.A i ↔ i ∈ sample.drop (sample.length - n) := by
  obtain ⟨sample', t0', L, _, _, h1, _, h2, _⟩ := Pi2Lev.setup_inv cfg lv h
  rw [hs] at h1
  cases h1
  obtain ⟨avail', recs, _, _, w, _⟩ := Pi2Lev.encDb_inv cfg lv h2
  have hle : (recs.flatMap Pi2Lev.Kw.cells).length ≤ sample.length := by
    rw [w.length_avail]
    exact Nat.le_add_left _ _
  exact ⟨(recs.flatMap Pi2Lev.Kw.cells).length, hle, w.occupied_empty⟩

/-- SSE-1: the nodes of the keyword processed after the keywords `pre` hang, as a linked list, at the array addresses
    ψ_K1(1 + n), ψ_K1(2 + n), … with n = the number of postings of `pre` (`ListAt`: node j is the cell at address
    ψ_K1(1 + n + j) and decrypts under the chain key to `id_j ‖ next key ‖ next address`).  ψ is the keyed bit PRP on
    `log2 s`-bit counters: placement is the image under the key of a counter segment that depends on the database only through
    list lengths — keyword bytes and identifier bytes do not enter. -/
theorem SSE1.placement_is_prp_image (raw : RawCfg) (cfg : SSE1Cfg) (hcfg : SSE1.cfgBuild raw = .ok cfg) (lv : Leaves)
    (hl : LeafLaws lv) (h2 : 2 ≤ cfg.log2s) (hl8 : 2 ≤ (cfg.l * 8).toNat) (K1 K2 K3 K4 : Bytes)
    (pre : DB) (w : Bytes) (ids : List Bytes) (post : DB) (t t' : Tape) (edb : SSE1EDB)
    (hs : SSE1.setup cfg lv [K1, K2, K3, K4] (pre ++ (w, ids) :: post) t = .ok (edb, t')) (hk : SSE1.KeysGood cfg t)
    (hidl : ∀ p ∈ pre ++ (w, ids) :: post, ∀ x ∈ p.2, x.length = cfg.idSize.toNat)
    (hkeys : ((pre ++ (w, ids) :: post).map (·.1)).Nodup) (hvalid : ∀ p ∈ pre ++ (w, ids) :: post, NoLeadingNul p.1) :
    ∃ k0, k0.length = cfg.k.toNat ∧ SSE1.ListAt cfg lv edb.A K1 (1 + DB.total pre) k0 ids := by
  obtain ⟨es, size, kvs, t1, t3, hb⟩ := SSE1.setup_inv hs
  -- `e`: the record of the iteration of `encDb` for `(w, ids)`; its counter is `1 + DB.total pre` (`Ctrs.at`)
  obtain ⟨pre', rest, rfl, rfl, hrest⟩ := List.map_eq_append_iff.mp hb.db.symm
  obtain ⟨e, post', rfl, he, _⟩ := List.map_eq_cons_iff.mp hrest
  cases he
  have hm : e ∈ pre' ++ e :: post' := List.mem_append_right _ List.mem_cons_self
  have hlist := hb.listAt hl (SSE1.cfgBuild_usable cfg raw hcfg) h2 hk hidl e hm
  exact ⟨e.k0, (hb.kw e hm).k0, hb.ctrs.at ▸ hlist⟩

/-- DP17, the chunk loop of `_Enc` for one keyword on its level (`placeChunks` = `for c in Cw`): it consumes exactly one
    recorded `random.choice` per chunk, in order, and afterwards chunk `k` of the keyword is in the bucket its draw names —
    the chunk-to-bucket assignment is the list of recorded choices, whatever the keyword and the identifiers are.
    `WFL lvl`: the level has as many free-cell counters as buckets (true of every level `initLevels` makes:
    `BInv.initLevels`, `BInv.wfl`; kept by the loop: the first part of `placeChunks_inv`). -/
theorem DP17.chunks_go_where_the_choices_say (cfg : DP17Cfg) (lv : Leaves) (k1 k2 w : Bytes) (i : Nat) (cw : List (List Bytes))
    (count : Nat) (lvl : Level) (HT : Table) (t : Tape) (lvl' : Level) (HT' : Table) (t' : Tape)
    (h : DP17.placeChunks cfg lv k1 k2 w i cw count lvl HT t = .ok (lvl', HT', t')) (hwf : DP17.WFL lvl) :
    ∃ xs : List Nat, t = xs.map Draw.nat ++ t' ∧ xs.length = cw.length ∧
      ∀ k, k < cw.length → ∀ id ∈ cw[k]!, DP17.InBucket lvl' xs[k]! (some (w, id)) := by
  obtain ⟨_, xs, h1, h2, h3⟩ := DP17.placeChunks_inv cfg lv h hwf
  refine ⟨xs, h1, h2, fun k hk id hid => ?_⟩
  obtain ⟨x, hx, hin, _⟩ := h3 k cw[k] (List.getElem?_eq_getElem hk)
  obtain ⟨hlt, rfl⟩ := List.getElem?_eq_some_iff.mp hx
  rw [getElem!_pos cw k hk] at hid
  rw [getElem!_pos xs k hlt]
  exact hin id hid

/-- two samples whose tails differ name different slot sets -/
example : (3 : Nat) ∈ [1, 2, 3].drop (3 - 1) ∧ (3 : Nat) ∉ [3, 1, 2].drop (3 - 1) := by decide

end SSEPy.C06
