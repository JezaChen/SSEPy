/-
  C19 — Persistent fixed-length byte array behaves like a list, on disk and after reopen.
  Refinement of the file-level model (Model/PArray.lean: chunk files, seek/read/write, lazy file
  creation, the slice-assignment rollback) to the reference model `Spec` = a plain list of items.
-/
import SSEPyVerif.Proofs.PArray
namespace SSEPy.C19
open SSEPy.PArray

/-- One step of the array is one step of the list: same answer, and the abstraction commutes —
    for every operation, every state, every (array_len, item_size, item_num_in_one_file). -/
theorem step_refines (s : PArr) (op : Op) :
    (step s op).2 = (specStep (abs s) op).2 ∧ abs (step s op).1 = (specStep (abs s) op).1 := by
  obtain ⟨hout, habs, _, _⟩ := step_spec s op
  exact ⟨hout, habs⟩

inductive Event where
  | op (o : Op)
  | reopen

def runEvent (s : PArr) : Event → PArr × Out
  | .op o => step s o
  | .reopen => (reopen s, .unit)

def specEvent (t : Spec) : Event → Spec × Out
  | .op o => specStep t o
  | .reopen => ({ t with closed := false }, .unit)

def run (s : PArr) : List Event → PArr × List Out
  | [] => (s, [])
  | e :: es => let (s1, o) := runEvent s e; let (s2, os) := run s1 es; (s2, o :: os)

def specRun (t : Spec) : List Event → Spec × List Out
  | [] => (t, [])
  | e :: es => let (t1, o) := specEvent t e; let (t2, os) := specRun t1 es; (t2, o :: os)

/-- Every history — any operations, in any order, with close and reopen anywhere — produces exactly
    the observations of the plain list, and ends in a state that reads as the list's final state. -/
theorem run_refines (es : List Event) : ∀ (s : PArr),
    (run s es).2 = (specRun (abs s) es).2 ∧ abs (run s es).1 = (specRun (abs s) es).1 := by
  induction es with
  | nil => intro s; exact ⟨rfl, rfl⟩
  | cons e es ih =>
    intro s
    have he : (runEvent s e).2 = (specEvent (abs s) e).2 ∧ abs (runEvent s e).1 = (specEvent (abs s) e).1 := by
      cases e with
      | op o => exact step_refines s o
      | reopen => exact ⟨rfl, rfl⟩
    obtain ⟨h1, h2⟩ := ih (runEvent s e).1
    simp only [run, specRun]
    rw [← he.2, he.1]
    exact ⟨by rw [h1], h2⟩

theorem spec_err_unchanged (t : Spec) (op : Op) (e : Err) (h : (specStep t op).2 = .err e) :
    (specStep t op).1 = t := by
  unfold specStep at h ⊢
  split
  · -- closed: every operation returns the state it was given
    cases op <;> rfl
  · rename_i hc
    rw [if_neg hc] at h
    cases op with
    -- a read returns the state it was given, whatever it answers
    | get i | getSlice a b c => simp only; split <;> rfl
    | iter | contains v | len => rfl
    -- a write returns `t` where it refuses, and answers `.unit` where it does not
    | set i v =>
      simp only at h ⊢
      cases hn : normIdx t.items.length i with
      | none => rfl
      | some k =>
        cases v with
        | nonBytes => rfl
        | bytes b =>
          simp only [hn] at h ⊢
          split
          · rfl
          · rename_i hb
            rw [if_neg hb] at h
            cases h
    | setSlice a b c vs =>
      simp only at h ⊢
      cases hs : sliceRange a b c t.items.length with
      | error e' => rfl
      | ok idx =>
        simp only [hs] at h ⊢
        cases hA : assignAll t.sz t.items (natIdx idx) vs with
        | error e' => rfl
        | ok items => simp only [hA] at h; cases h
    | del i =>
      simp only at h ⊢
      cases hn : normIdx t.items.length i with
      | none => rfl
      | some k => simp only [hn] at h; cases h
    | delSlice a b c =>
      simp only at h ⊢
      cases hs : sliceRange a b c t.items.length with
      | error e' => rfl
      | ok idx => simp only [hs] at h; cases h
    | clear | close => simp only at h; cases h

/-- A failing operation (oversized or non-bytes item, index out of range, zero step, closed handle) —
    including a slice assignment that fails in the middle — leaves every item exactly as it was. -/
theorem failed_op_unchanged (s : PArr) (op : Op) (e : Err) (h : (step s op).2 = .err e) :
    abs (step s op).1 = abs s := by
  obtain ⟨h1, h2⟩ := step_refines s op
  have herr : (specStep (abs s) op).2 = .err e := by rw [← h1]; exact h
  rw [h2]
  exact spec_err_unchanged (abs s) op e herr

/-- every operation on a closed array raises ValueError, except that closing again is allowed -/
theorem closed_raises (s : PArr) (op : Op) (hc : s.closed = true) :
    (step s op).2 = (match op with | .close => .unit | _ => .err .valueError) := by
  unfold step
  simp only [hc, ↓reduceIte]
  cases op <;> rfl

/-- reopening changes no item (`reopen` only clears the closed flag: the chunk files are the state) -/
theorem reopen_contents (s : PArr) : (abs (reopen s)).items = (abs s).items := rfl

/-- a freshly created array reads as all zeros -/
theorem create_reads_zero (sz len per : Nat) :
    (abs (create sz len per)).items = List.replicate len (zeros sz) := by
  unfold abs
  apply List.ext_getElem
  · simp [create]
  · intro i h1 h2
    simp [create, readIdx, fileOf, readAt, zeros]

/-- If every existing chunk file has an id below `ceil(array_len / item_num_in_one_file)` (`FilesOk`), so it is
    after one more operation.  Chunk ids are naturals in the model; `step_spec` says that `per` stays. -/
theorem files_created (s : PArr) (op : Op) (hper : 0 < s.per) (h : FilesOk s) : FilesOk (step s op).1 := by
  obtain ⟨_, _, _, hfiles⟩ := step_spec s op
  exact hfiles hper h

theorem create_files_ok (sz len per : Nat) : FilesOk (create sz len per) := by
  intro fid hf; simp [create] at hf

/-! Non-vacuity: a history with a failed slice assignment, close and reopen, computed in the kernel. -/
example :
    let s0 := create 2 5 2                       -- length 5 is not a multiple of the chunk size 2
    (run s0 [.op (.set (-1) (.bytes [7])), .op (.setSlice none none (some (-2)) [.bytes [1, 1], .bytes [9, 9, 9]]),
             .op .close, .reopen, .op (.get 4), .op .iter]).2
      = [.unit, .err .valueError, .unit, .unit, .item [0, 7],
         .items [[0, 0], [0, 0], [0, 0], [0, 0], [0, 7]]] := by decide +kernel

end SSEPy.C19
