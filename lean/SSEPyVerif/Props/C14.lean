/-
  C14 — Symmetric encryption wrapper: correct decryption, fixed expansion, fresh randomness, contracts.
  `E`/`D` are the block cipher's single-block encryption / decryption under a key (AES-ECB): arbitrary
  functions with `D k (E k x) = x` and 16-byte outputs on 16-byte blocks.
-/
import SSEPyVerif.Proofs.Cbc
namespace SSEPy.C14

def Accepts (s : AESxCBC) (key msg : Bytes) : Prop :=
  (key.length : Int) = s.keyLength ∧ (s.messageLength = -1 ∨ (msg.length : Int) = s.messageLength)

theorem enc_ok (s : AESxCBC) (E : BlockFn) (key iv msg : Bytes) (h : Accepts s key msg) :
    s.encrypt E key iv msg = .ok (iv ++ (cbcEnc E key iv (blocks16 (pkcs7Pad msg))).flatten) :=
  AESxCBC.encrypt_eq_ok.2 ⟨h.2, h.1, rfl⟩

/-- ciphertext length depends only on the message length -/
theorem enc_len (s : AESxCBC) (E : BlockFn) (key iv msg c : Bytes)
    (hE : ∀ x : Bytes, x.length = 16 → (E key x).length = 16) (hiv : iv.length = 16)
    (h : s.encrypt E key iv msg = .ok c) : c.length = 16 + 16 * (msg.length / 16 + 1) := by
  obtain ⟨_, _, rfl⟩ := AESxCBC.encrypt_eq_ok.1 h
  have hpad := pkcs7Pad_length msg
  have h16 := blocks16_all16 (pkcs7Pad msg) (pkcs7Pad_length_mod msg)
  have hc16 := cbcEnc_all16 E key hE (blocks16 (pkcs7Pad msg)) iv h16
  rw [List.length_append, hiv, flatten_length_of_all 16 _ hc16, cbcEnc_length]
  have hfl := flatten_blocks16 (pkcs7Pad msg)
  have := flatten_length_of_all 16 _ h16
  rw [hfl, hpad] at this
  omega

/-- `encrypt` returns `iv + …` -/
theorem enc_iv_prefix (s : AESxCBC) (E : BlockFn) (key iv msg c : Bytes) (hiv : iv.length = 16)
    (h : s.encrypt E key iv msg = .ok c) : c.take 16 = iv := by
  obtain ⟨_, _, rfl⟩ := AESxCBC.encrypt_eq_ok.1 h
  exact List.take_left' hiv

/-- two encryptions of one message under one key with different IVs (`os.urandom(16)`) give different ciphertexts -/
theorem enc_fresh (s : AESxCBC) (E : BlockFn) (key iv iv' msg c c' : Bytes)
    (hiv : iv.length = 16) (hiv' : iv'.length = 16) (hne : iv ≠ iv')
    (h : s.encrypt E key iv msg = .ok c) (h' : s.encrypt E key iv' msg = .ok c') : c ≠ c' := by
  intro heq
  have h1 := enc_iv_prefix s E key iv msg c hiv h
  have h2 := enc_iv_prefix s E key iv' msg c' hiv' h'
  rw [heq] at h1
  exact hne (h1.symm.trans h2)

/-- decryption of an encryption returns the message — every message, the empty one and block-aligned ones
    included — provided the declared cipher length is -1 or that of this ciphertext (`hcl`) -/
theorem dec_enc (s : AESxCBC) (E D : BlockFn) (key iv msg : Bytes)
    (hDE : ∀ x : Bytes, x.length = 16 → D key (E key x) = x)
    (hE : ∀ x : Bytes, x.length = 16 → (E key x).length = 16)
    (hiv : iv.length = 16) (hacc : Accepts s key msg)
    (hcl : s.cipherLength = -1 ∨ s.cipherLength = 16 + 16 * (msg.length / 16 + 1)) :
    ∃ c, s.encrypt E key iv msg = .ok c ∧ s.decrypt D key c = .ok msg := by
  have h16 := blocks16_all16 (pkcs7Pad msg) (pkcs7Pad_length_mod msg)
  have hc16 := cbcEnc_all16 E key hE (blocks16 (pkcs7Pad msg)) iv h16
  have hclen := enc_len s E key iv msg _ hE hiv (enc_ok s E key iv msg hacc)
  refine ⟨_, enc_ok s E key iv msg hacc, AESxCBC.decrypt_eq_ok.2 ⟨?_, hacc.1, ?_, ?_, ?_⟩⟩
  · rcases hcl with hfree | hdecl
    · exact .inl hfree
    · right
      rw [hclen, hdecl]
      rfl
  · rw [List.take_left' hiv, hiv]
  · rw [List.drop_left' hiv, flatten_length_of_all 16 _ hc16, Nat.mul_mod_left]
  · rw [List.take_left' hiv, List.drop_left' hiv, blocks16_flatten _ hc16, cbcDec_cbcEnc E D key hDE _ iv h16,
      flatten_blocks16]
    exact pkcs7Unpad_pad msg

/-- a key, message or ciphertext whose length is not the declared one is refused with ValueError, whatever
    the block cipher is -/
theorem contracts (s : AESxCBC) (E D : BlockFn) (key iv x : Bytes) :
    ((key.length : Int) ≠ s.keyLength → s.encrypt E key iv x = .error .valueError ∧ s.decrypt D key x = .error .valueError) ∧
    (s.messageLength ≠ -1 ∧ (x.length : Int) ≠ s.messageLength → s.encrypt E key iv x = .error .valueError) ∧
    (s.cipherLength ≠ -1 ∧ (x.length : Int) ≠ s.cipherLength → s.decrypt D key x = .error .valueError) := by
  refine ⟨?_, ?_, ?_⟩
  · -- the key length is the second test of both functions; a refusal by the first gives the same error
    intro hk
    unfold AESxCBC.encrypt AESxCBC.decrypt
    constructor
    · split
      · rfl
      · exact if_pos (bne_iff_ne.mpr hk)
    · split
      · rfl
      · exact if_pos (bne_iff_ne.mpr hk)
  · -- the declared message length is the first test of `encrypt`
    rintro ⟨h1, h2⟩
    unfold AESxCBC.encrypt
    exact if_pos (bne_and_bne h1 h2)
  · -- the declared cipher length is the first test of `decrypt`
    rintro ⟨h1, h2⟩
    unfold AESxCBC.decrypt
    exact if_pos (bne_and_bne h1 h2)

/-- construction refuses key lengths other than 16/24/32 and cipher lengths that are not block multiples -/
theorem ctor_contracts (kl cl ml : Int) :
    (kl ≠ 16 ∧ kl ≠ 24 ∧ kl ≠ 32 → AESxCBC.new kl cl ml = .error .valueError) ∧
    (cl ≠ -1 ∧ cl % 16 ≠ 0 → AESxCBC.new kl cl ml = .error .valueError) := by
  unfold AESxCBC.new
  constructor
  · rintro ⟨h1, h2, h3⟩
    simp [h1, h2, h3]
  · -- the cipher length is the second test of `AESxCBC.new`, which writes `%` as `Int.emod`; a refused key
    -- length gives the same error
    rintro ⟨h1, (h2 : Int.emod cl 16 ≠ 0)⟩
    split
    · rfl
    · rw [if_pos (bne_and_bne h1 h2)]

/-- Unpadding refuses (ValueError) an empty or unaligned plaintext, and a last byte that is 0 or more than 16.
    The remaining kind of bad padding, a last byte `n ≤ 16` that is not repeated `n` times, is not covered. -/
theorem unpad_rejects (p : Bytes)
    (h : p.length = 0 ∨ p.length % 16 ≠ 0 ∨ (p.getLastD 0).toNat = 0 ∨ (p.getLastD 0).toNat > 16) :
    pkcs7Unpad p = .error .valueError := by
  unfold pkcs7Unpad
  rcases h with h | h | h
  · simp [h]
  · simp [h]
  · split
    · rfl
    · exact if_pos (by simpa only [Bool.or_eq_true, beq_iff_eq, decide_eq_true_eq] using h)

/-! Non-vacuity: a toy block cipher (byte-wise +k / −k) meets the two hypotheses on `E` and `D`, and an
    encryption under it computes.  The third example: the object `AESxCBC.new 16` returns is `⟨16, -1, -1⟩`. -/
def toyE : BlockFn := fun k x => x.map (· + k.headD 1)
def toyD : BlockFn := fun k x => x.map (· - k.headD 1)
example : ∀ k x : Bytes, toyD k (toyE k x) = x := by
  intro k x; simp [toyE, toyD, List.map_map, Function.comp_def]
example : ∀ k x : Bytes, x.length = 16 → (toyE k x).length = 16 := by intro k x h; simp [toyE, h]
example : (AESxCBC.new 16).map (fun s => Accepts s (List.replicate 16 7) [1, 2, 3]) = .ok (Accepts ⟨16, -1, -1⟩ (List.replicate 16 7) [1, 2, 3]) := rfl
example : ((⟨16, -1, -1⟩ : AESxCBC).encrypt toyE (List.replicate 16 7) (List.replicate 16 9) []).toOption.map List.length = some 32 := by decide +kernel

end SSEPy.C14
