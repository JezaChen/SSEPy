/-
  C17 — Byte-level encodings round-trip: id blocks, splits, integers, hex.
  Every statement is about the executable definitions of Model/Bytes.lean, which the correspondence run
  ties to toolkit/database_utils.py, toolkit/bytes_utils.py, toolkit/list_utils.py.
-/
import SSEPyVerif.Proofs.Bytes
namespace SSEPy.C17

def ValidIds (ids : List Bytes) (sz : Nat) : Prop := ∀ id ∈ ids, id.length = sz ∧ allZero id = false

/-- the block size the packer uses: the default 0 selects `cap * sz` -/
def effBs (cap sz bs : Nat) : Nat := if bs = 0 then cap * sz else bs

/-- Packing returns blocks, and parsing them by size, one after the other, gives back the identifier list — for
    every capacity, identifier size and block size ≥ capacity·size (or the default 0), and any list length. -/
theorem parse_partition (ids : List Bytes) (cap sz bs : Nat) (hsz : 0 < sz) (hcap : 0 < cap)
    (hbs : bs = 0 ∨ cap * sz ≤ bs) (hv : ValidIds ids sz) :
    ∃ blocks, partitionBlocksNat ids cap sz bs = .ok blocks ∧
      (∀ b : Bytes, parseBySizeNat b sz = .ok (parseLoop b.length b sz)) ∧
      blocks.flatMap (fun b => parseLoop b.length b sz) = ids := by
  have hbs' : cap * sz ≤ effBs cap sz bs := by
    unfold effBs; rcases hbs with h | h
    · simp [h]
    · split <;> omega
  refine ⟨(chunksFuel ids.length ids cap).map fun grp => padBlock grp.flatten (effBs cap sz bs), ?_, ?_, ?_⟩
  · exact partitionBlocksNat_eq_ok.2 ⟨hbs', by omega, rfl⟩
  · intro b
    rw [parseBySizeNat, if_neg (Nat.ne_of_gt hsz)]
  · have hflat := flatten_chunksFuel hcap ids (Nat.le_refl _)
    -- each block is the ids of its group followed by zeros, and parses back to the group
    rw [List.flatMap_map, List.flatMap_def, List.map_congr_left (g := id) ?_, List.map_id, hflat]
    intro c hc
    rw [padBlock_eq]
    exact parseLoop_flatten_zeros sz hsz c _ _
      (fun id hid => hv id (by rw [← hflat]; exact List.mem_flatten.mpr ⟨c, hc, hid⟩)) (Nat.le_refl _)

/-- `partition_identifiers_to_blocks` returns ⌈n / capacity⌉ blocks for `n` identifiers. -/
theorem partition_count (ids : List Bytes) (cap sz bs : Nat) (hcap : 0 < cap) (blocks : List Bytes)
    (h : partitionBlocksNat ids cap sz bs = .ok blocks) : blocks.length = ceilDiv ids.length cap := by
  obtain ⟨_, _, rfl⟩ := partitionBlocksNat_eq_ok.1 h
  rw [List.length_map]
  exact chunksFuel_length hcap ids (Nat.le_refl _)

/-- All blocks have the same length: the effective block size (identifiers of the declared size). -/
theorem partition_block_len (ids : List Bytes) (cap sz bs : Nat) (hcap : 0 < cap)
    (hv : ∀ id ∈ ids, id.length = sz) (blocks : List Bytes)
    (h : partitionBlocksNat ids cap sz bs = .ok blocks) :
    ∀ b ∈ blocks, b.length = effBs cap sz bs := by
  obtain ⟨hE, _, rfl⟩ := partitionBlocksNat_eq_ok.1 h
  intro b hb
  obtain ⟨c, hc, rfl⟩ := List.mem_map.mp hb
  have hmem := chunksFuel_mem_length hcap ids (Nat.le_refl _) c hc
  have hflat := flatten_chunksFuel hcap ids (Nat.le_refl _)
  have hlen : c.flatten.length = c.length * sz :=
    flatten_length_of_all sz c (fun id hid => hv id (by rw [← hflat]; exact List.mem_flatten.mpr ⟨c, hc, hid⟩))
  have hle : c.length * sz ≤ cap * sz := Nat.mul_le_mul_right _ hmem.2
  unfold effBs
  generalize (if bs = 0 then cap * sz else bs) = E at hE ⊢
  rw [padBlock_eq, List.length_append, zeros, List.length_replicate]
  omega

/-- Parsing by entry count is parsing by identifier size whenever `block_size // capacity == size`. -/
theorem parse_by_count (blk : Bytes) (cap sz : Nat) (hcap : 0 < cap) (h : blk.length / cap = sz) :
    parseByCountNat blk cap = parseBySizeNat blk sz := by
  unfold parseByCountNat
  have : cap ≠ 0 := by omega
  simp [this, h]

/-- The Python-int wrappers agree with the natural-domain functions on non-negative arguments
    (this is the definition of the wrappers; stated so that the tie is explicit). -/
theorem wrappers_agree (ids : List Bytes) (blk : Bytes) (cap sz bs : Nat) :
    partitionBlocks ids cap sz bs = partitionBlocksNat ids cap sz bs ∧
    parseBySize blk sz = parseBySizeNat blk sz ∧
    parseByCount blk cap = parseByCountNat blk cap := by
  refine ⟨?_, ?_, ?_⟩
  · unfold partitionBlocks
    have : (0 : Int) ≤ cap ∧ (0 : Int) ≤ sz ∧ (0 : Int) ≤ bs := ⟨by omega, by omega, by omega⟩
    simp [this]
  · unfold parseBySize
    have : ¬ ((sz : Int) < 0) := by omega
    simp [this]
  · unfold parseByCount
    have : ¬ ((cap : Int) < 0) := by omega
    simp [this]

/-- Joining the pieces that `split_bytes_given_slice_len` returns restores the string. -/
theorem split_concat (x : Bytes) (lens : List Nat) (pieces : List Bytes)
    (h : splitBytes x lens = .ok pieces) : pieces.flatten = x := by
  obtain ⟨hlen, rfl⟩ := splitBytes_eq_ok.1 h
  have hfit : 0 + lens.sum ≤ x.length := by rw [Nat.zero_add, hlen]; exact Nat.le_refl _
  obtain ⟨hflat, _⟩ := splitLoop_spec x lens 0 hfit
  rw [hflat, List.drop_zero, ← hlen, List.take_length]

/-- A split by a length vector that does not sum to the string length is refused with ValueError. -/
theorem split_mismatch_raises (x : Bytes) (lens : List Nat) (h : x.length ≠ lens.sum) :
    splitBytes x lens = .error .valueError := by
  unfold splitBytes
  exact if_pos (bne_iff_ne.mpr h)

/-- When the vector sums to the length the split succeeds and the piece lengths are exactly the vector
    (zero lengths, leading or trailing, included). -/
theorem split_lengths (x : Bytes) (lens : List Nat) (h : x.length = lens.sum) :
    ∃ pieces, splitBytes x lens = .ok pieces ∧ pieces.map List.length = lens := by
  have hfit : 0 + lens.sum ≤ x.length := by rw [Nat.zero_add, h]; exact Nat.le_refl _
  exact ⟨_, splitBytes_eq_ok.2 ⟨h, rfl⟩, (splitLoop_spec x lens 0 hfit).2⟩

/-- `int_from_bytes(int_to_bytes(x, w)) == x` at any width that holds `x`. -/
theorem int_roundtrip (x w : Nat) (b : Bytes) (h : intToBytesNat x w = .ok b) :
    intFromBytes b = x ∧ b.length = w := by
  obtain ⟨hlt, rfl⟩ := intToBytesNat_eq_ok.1 h
  exact ⟨fromBE_toBE w x hlt, toBE_length w x⟩

/-- The default (minimal) width of `int_to_bytes` round-trips too. -/
theorem int_roundtrip_min (x : Nat) : intFromBytes (natToBytesMin x) = x :=
  fromBE_toBE _ _ (lt_256_pow_of_lt_two_pow (lt_two_pow_bitLength x))

/-- `int_to_bytes` refuses a width too narrow for `x` (OverflowError): it never truncates. -/
theorem int_too_narrow_refused (x w : Nat) (h : 256 ^ w ≤ x) :
    intToBytesNat x w = .error .overflowError := by
  unfold intToBytesNat
  exact if_pos h

theorem int_wrapper_agrees (x w : Nat) :
    intToBytes x w = intToBytesNat x w ∧ intToBytes x (-1) = .ok (natToBytesMin x) := by
  unfold intToBytes
  have h1 : ((w : Int) == -1) = false := by simp
  have h2 : ¬ ((w : Int) < 0) := by omega
  have h3 : ¬ ((x : Int) < 0) := by omega
  simp [h1, h2, h3]

/-- XOR is an involution (and keeps the length of its first argument). -/
theorem xor_involution (a b : Bytes) (h : b.length ≤ a.length) :
    ∃ c, bytesXor a b = .ok c ∧ c.length = a.length ∧ bytesXor c b = .ok a := by
  have hlen : (xorPrefix a b).length = a.length := xorPrefix_length a b
  have hfit : b.length ≤ (xorPrefix a b).length := by rw [hlen]; exact h
  exact ⟨_, bytesXor_eq_ok.2 ⟨h, rfl⟩, hlen, bytesXor_eq_ok.2 ⟨hfit, xorPrefix_involution a b⟩⟩

/-- `bytes_xor` with a second argument longer than the first raises IndexError (`result[i]` past the end). -/
theorem xor_longer_refused (a b : Bytes) (h : a.length < b.length) :
    bytesXor a b = .error .indexError := by
  unfold bytesXor
  exact if_pos h

/-- `bytes.fromhex(b.hex()) == b`. -/
theorem hex_roundtrip_bytes (b : Bytes) : fromHex (toHex b) = .ok b := by
  induction b with
  | nil => simp [toHex, fromHex]
  | cons x xs ih =>
    simp only [toHex, List.flatMap_cons, List.cons_append, List.nil_append] at ih ⊢
    unfold fromHex
    have hhi : x.toNat / 16 < 16 := Nat.div_lt_of_lt_mul x.toNat_lt
    have hlo : x.toNat % 16 < 16 := Nat.mod_lt _ (by decide)
    rw [hexVal_hexDigit _ hhi, hexVal_hexDigit _ hlo]
    simp only [ih, ok_bind]
    congr 2
    have : x.toNat / 16 * 16 + x.toNat % 16 = x.toNat := Nat.div_add_mod' _ _
    rw [this]; simp

/-- `bytes.fromhex(h).hex() == h.lower()` for every string `h` without whitespace that `fromhex` accepts
    (`fromHex` models `bytes.fromhex` on such strings only). -/
theorem hex_roundtrip (h : List Char) (b : Bytes) (hb : fromHex h = .ok b) :
    toHex b = h.map lowerHexChar := by
  induction h using fromHex.induct generalizing b with
  | case1 =>
    simp [fromHex] at hb
    subst hb
    simp [toHex]
  | case2 c => simp [fromHex] at hb
  | case3 a c rest x y hy hx ih =>
    simp only [fromHex, hx, hy, ok_inv] at hb
    obtain ⟨tl, hr, rfl⟩ := hb
    obtain ⟨hx16, hxd⟩ := hexVal_inv hx
    obtain ⟨hy16, hyd⟩ := hexVal_inv hy
    have ih' := ih tl hr
    simp only [toHex, List.flatMap_cons, List.cons_append, List.nil_append, List.map_cons] at ih' ⊢
    rw [ih']
    have hn : (UInt8.ofNat (x * 16 + y)).toNat = x * 16 + y := by
      simp [UInt8.toNat_ofNat']; omega
    rw [hn, show (x * 16 + y) / 16 = x by omega, show (x * 16 + y) % 16 = y by omega, hxd, hyd]
  | case4 a c rest hno =>
    unfold fromHex at hb
    split at hb
    · rename_i x y hx hy
      exact absurd hy (fun h2 => hno x y hx h2)
    · cases hb

/-! Non-vacuity: the hypotheses are met by concrete non-trivial inputs, and the functions compute. -/

example : ValidIds [[1, 2], [3, 4], [0, 5]] 2 := by unfold ValidIds; decide
example : partitionBlocksNat [[1, 2], [3, 4], [0, 5]] 2 2 5 = .ok [[1, 2, 3, 4, 0], [0, 5, 0, 0, 0]] := by decide +kernel
example : parseBySizeNat [0, 5, 0, 0, 0] 2 = .ok [[0, 5]] := by decide +kernel
example : splitBytes [1, 2, 3] [0, 2, 1, 0] = .ok [[], [1, 2], [3], []] := by decide +kernel
example : intToBytesNat 258 3 = .ok [0, 1, 2] := by decide +kernel
example : fromHex ['0', 'a', 'F', 'f'] = .ok [10, 255] := by decide +kernel

end SSEPy.C17
