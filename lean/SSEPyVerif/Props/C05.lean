/-
  C05 — Index size and layout reveal only the scheme's public size parameter.

  `S.shape`, for each of the nine schemes: how many tables, cells and entries the index `EDBSetup` returns has, and how
  long every label and value is, is a function of the configuration and of one size parameter of the database.
  `S.shape_indistinguishable` (PiBas, PiPack, PiPtr, Pi2Lev, CT14, ANSS16, SSE-2): two databases that agree on it give
  identically shaped indexes, whatever their keywords, contents and list lengths.  The parameter is N, the number of
  postings (PiBas, SSE-2, DP17); the number of blocks (PiPack); (blocks, pointer blocks) (PiPtr); (keywords, array
  length) (Pi2Lev); `⌈log2 N⌉` (CT14, ANSS16: the index shape is `S.shapeFor cfg ⌈log2 N⌉`); none at all (SSE-1, which
  therefore has no `shape_indistinguishable`).  DP17 has `arrays_shape` and `ht_shape` in place of `shape`, and no
  `shape_indistinguishable`.
  Every statement is for identifiers of the configured size.  The hypotheses about the run (distinct labels: `hn`, `hnd`;
  padding keywords and filler draws that repeat nothing: `hfresh`) have Boolean counterparts that the driver evaluates on
  every recorded run (`S.hypsB`; `hnd` of `DP17.arrays_shape` has none); the correspondence (padding cells included) and
  the direct oracle on pairs of databases with equal size parameter tie the theorems to the code.
-/
import SSEPyVerif.Proofs.Schemes.Chain
import SSEPyVerif.Proofs.Schemes.ANSS16
import SSEPyVerif.Proofs.Schemes.CT14
import SSEPyVerif.Proofs.Schemes.SSE1
import SSEPyVerif.Proofs.Schemes.DP17Index
import SSEPyVerif.Proofs.Schemes.SSE2Complete
import SSEPyVerif.Proofs.Schemes.PiPtr
import SSEPyVerif.Proofs.Schemes.Pi2Lev
namespace SSEPy.C05
open SSEPy.Sch SSEPy.Sch.Chain

/-- PiBas and PiPack: the (label length, value length) pairs of the dictionary `EDBSetup` returns are, as a multiset,
    `kwLens` of every keyword — a function of configuration and chunk lengths only -/
theorem Chain.shape (cfg : ChainCfg) (lv : Leaves) (hl : LeafLaws lv) (hh : cfg.prfF.hashLen = 20)
    (K : Bytes) (db : DB) (t t' : Tape) (D : Table) (h : Chain.setup cfg lv K db t = .ok (D, t'))
    (hn : ∀ L, encDb cfg lv K db t = .ok (L, t') → (L.map (·.1)).Nodup) :
    (D.map fun p => (p.1.length, p.2.length)).Perm (db.flatMap (kwLens cfg)) := by
  obtain ⟨L, hL, rfl⟩ := setup_inv cfg lv h
  have hs := encDb_shape cfg lv hl hh hL
  rw [← hs]
  exact (buildTable_perm L (hn L hL)).map _

/-- PiBas: the dictionary has N entries, all alike — a label of the PRF's output length and the ciphertext of one
    identifier of `sz` bytes -/
theorem PiBas.shape (raw : RawCfg) (cfg : ChainCfg) (hcfg : PiBas.cfgBuild raw = .ok cfg) (lv : Leaves) (hl : LeafLaws lv)
    (K : Bytes) (db : DB) (t t' : Tape) (D : Table) (h : Chain.setup cfg lv K db t = .ok (D, t'))
    (hn : ∀ L, encDb cfg lv K db t = .ok (L, t') → (L.map (·.1)).Nodup)
    (sz : Nat) (hsz : ∀ p ∈ db, ∀ id ∈ p.2, id.length = sz) :
    (D.map fun p => (p.1.length, p.2.length)).Perm
      (List.replicate db.total (cfg.prfF.outputLength.toNat, 16 + 16 * (sz / 16 + 1))) := by
  have hpack : ∀ p ∈ db, ∃ chs, cfg.pack p.2 = .ok chs ∧ chs.length = p.2.length ∧ ∀ ch ∈ chs, ch.length = sz :=
    fun p hp => ⟨p.2, PiBas.pack_eq hcfg p.2, rfl, hsz p hp⟩
  have hlens := flatMap_kwLens cfg db (fun p => p.2.length) sz hpack
  exact (Chain.shape cfg lv hl (PiBas.cfgBuild_hashLen hcfg) K db t t' D h hn).trans (List.Perm.of_eq hlens)

theorem PiBas.shape_indistinguishable (raw : RawCfg) (cfg : ChainCfg) (hcfg : PiBas.cfgBuild raw = .ok cfg) (lv : Leaves)
    (hl : LeafLaws lv) (K K' : Bytes) (db db' : DB) (t t1 u u1 : Tape) (D D' : Table)
    (h : Chain.setup cfg lv K db t = .ok (D, t1)) (h' : Chain.setup cfg lv K' db' u = .ok (D', u1))
    (hn : ∀ L, encDb cfg lv K db t = .ok (L, t1) → (L.map (·.1)).Nodup)
    (hn' : ∀ L, encDb cfg lv K' db' u = .ok (L, u1) → (L.map (·.1)).Nodup)
    (sz : Nat) (hsz : ∀ p ∈ db, ∀ id ∈ p.2, id.length = sz) (hsz' : ∀ p ∈ db', ∀ id ∈ p.2, id.length = sz)
    (hN : db.total = db'.total) :
    (D.map fun p => (p.1.length, p.2.length)).Perm (D'.map fun p => (p.1.length, p.2.length)) := by
  have a := PiBas.shape raw cfg hcfg lv hl K db t t1 D h hn sz hsz
  have b := PiBas.shape raw cfg hcfg lv hl K' db' u u1 D' h' hn' sz hsz'
  rw [hN] at a
  exact a.trans b.symm

/-- PiPack's public size parameter: the number of blocks `Σ_w ⌈|DB(w)| / B⌉` -/
def PiPack.blocks (B : Nat) (db : DB) : Nat := (db.map fun p => ceilDiv p.2.length B).sum

/-- PiPack: one entry per block, all alike — the label length and the ciphertext length of a full block, also for the
    last, partly filled block of every keyword (it is padded before it is encrypted) -/
theorem PiPack.shape (raw : RawCfg) (cfg : ChainCfg) (hcfg : PiPack.cfgBuild raw = .ok cfg) (lv : Leaves) (hl : LeafLaws lv)
    (K : Bytes) (db : DB) (t t' : Tape) (D : Table) (h : Chain.setup cfg lv K db t = .ok (D, t'))
    (hn : ∀ L, encDb cfg lv K db t = .ok (L, t') → (L.map (·.1)).Nodup)
    (B sz : Int) (hB : getInt raw "param_B" = .ok B) (hsz : getInt raw "param_identifier_size" = .ok sz)
    (hids : ∀ p ∈ db, ∀ id ∈ p.2, id.length = sz.toNat) :
    (D.map fun p => (p.1.length, p.2.length)).Perm
      (List.replicate (PiPack.blocks B.toNat db) (cfg.prfF.outputLength.toNat, 16 + 16 * (B.toNat * sz.toNat / 16 + 1))) := by
  have hpack : ∀ p ∈ db, ∃ chs, cfg.pack p.2 = .ok chs ∧ chs.length = ceilDiv p.2.length B.toNat ∧
      ∀ ch ∈ chs, ch.length = B.toNat * sz.toNat := by
    intro p hp
    obtain ⟨chs, hchs, hcount, hlen⟩ := PiPack.pack_returns hcfg hB hsz p.2
    exact ⟨chs, hchs, hcount, hlen (hids p hp)⟩
  have hlens := flatMap_kwLens cfg db (fun p => ceilDiv p.2.length B.toNat) (B.toNat * sz.toNat) hpack
  exact (Chain.shape cfg lv hl (PiPack.cfgBuild_hashLen hcfg) K db t t' D h hn).trans (List.Perm.of_eq hlens)

theorem PiPack.shape_indistinguishable (raw : RawCfg) (cfg : ChainCfg) (hcfg : PiPack.cfgBuild raw = .ok cfg) (lv : Leaves)
    (hl : LeafLaws lv) (K K' : Bytes) (db db' : DB) (t t1 u u1 : Tape) (D D' : Table)
    (h : Chain.setup cfg lv K db t = .ok (D, t1)) (h' : Chain.setup cfg lv K' db' u = .ok (D', u1))
    (hn : ∀ L, encDb cfg lv K db t = .ok (L, t1) → (L.map (·.1)).Nodup)
    (hn' : ∀ L, encDb cfg lv K' db' u = .ok (L, u1) → (L.map (·.1)).Nodup)
    (B sz : Int) (hB : getInt raw "param_B" = .ok B) (hsz : getInt raw "param_identifier_size" = .ok sz)
    (hids : ∀ p ∈ db, ∀ id ∈ p.2, id.length = sz.toNat) (hids' : ∀ p ∈ db', ∀ id ∈ p.2, id.length = sz.toNat)
    (hN : PiPack.blocks B.toNat db = PiPack.blocks B.toNat db') :
    (D.map fun p => (p.1.length, p.2.length)).Perm (D'.map fun p => (p.1.length, p.2.length)) := by
  have a := PiPack.shape raw cfg hcfg lv hl K db t t1 D h hn B sz hB hsz hids
  have b := PiPack.shape raw cfg hcfg lv hl K' db' u u1 D' h' hn' B sz hB hsz hids'
  rw [hN] at a
  exact a.trans b.symm

/-- what an ANSS16 index looks like for `t = ⌈log2 N⌉`: `t+1` level tables, level `j` with `2^(t+1-j)` entries of
    (`l`, `2^j · c`) bytes, and `HT(S)` with `2^t` entries of (`l'`, `c'`) bytes — `c`, `c'` the ciphertext lengths of one
    identifier and of one length field -/
def ANSS16.shapeFor (cfg : ANSSCfg) (t : Nat) : List (Nat × Nat) × List (List (Nat × Nat)) :=
  (List.replicate (2 ^ t) (cfg.lPrime.toNat, 16 + 16 * (ceilDiv (t + 1) 8 / 16 + 1)),
   (List.range (t + 1)).map fun j => List.replicate (2 ^ (t + 1 - j)) (cfg.l.toNat, 2 ^ j * ANSS16.clen cfg))

/-- ANSS16 (schemes/ANSS16/Scheme3): the index shape is a function of `⌈log2 N⌉` only — the number of tables, the number
    of entries of every table, the lengths of every label and value.  In particular no level ever holds more lists than the
    `2^(t+1-j)` it is padded to (/repo commit f3c43f7): a list kept at level `j` has more than `2^j / 2` identifiers and
    there are `2^t` identifiers in all.  `hfresh`: the keywords and the 32-byte draws of the tape (the dummy keywords of
    the padding loop) are pairwise distinct. -/
theorem ANSS16.shape (cfg : ANSSCfg) (lv : Leaves) (hl : LeafLaws lv) (K : Bytes) (db : DB) (t t' : Tape) (edb : ANSSEDB)
    (hs : ANSS16.setup cfg lv K db t = .ok (edb, t'))
    (hids : ∀ p ∈ db, ∀ x ∈ p.2, x.length = cfg.idSize.toNat) (hfresh : (db.map (·.1) ++ draws32 t).Nodup)
    (hnd : ∀ SL TL t1, ANSS16.setupLists cfg lv K db t = .ok (SL, TL, t1) →
      (SL.map (·.1)).Nodup ∧ ∀ L ∈ TL, (L.map (·.1)).Nodup) :
    (shapeOf edb.HTS, edb.HTL.map shapeOf) = ANSS16.shapeFor cfg (clog2 db.total) := by
  obtain ⟨SL, TL, hr, rfl⟩ := ANSS16.setup_inv hs
  obtain ⟨n1, n2⟩ := hnd SL TL _ hr
  obtain ⟨s1, s2, s3, s4⟩ := ANSS16.setupLists_shape hl.enc_len hr hids hfresh
  exact Prod.ext (shape_replicate (buildTable_perm SL n1) s3 s4) (shapeOf_levels s1 s2 n2)

theorem ANSS16.shape_indistinguishable (cfg : ANSSCfg) (lv : Leaves) (hl : LeafLaws lv) (K K' : Bytes) (db db' : DB)
    (t t1 u u1 : Tape) (edb edb' : ANSSEDB)
    (hs : ANSS16.setup cfg lv K db t = .ok (edb, t1)) (hs' : ANSS16.setup cfg lv K' db' u = .ok (edb', u1))
    (hids : ∀ p ∈ db, ∀ x ∈ p.2, x.length = cfg.idSize.toNat) (hids' : ∀ p ∈ db', ∀ x ∈ p.2, x.length = cfg.idSize.toNat)
    (hfresh : (db.map (·.1) ++ draws32 t).Nodup) (hfresh' : (db'.map (·.1) ++ draws32 u).Nodup)
    (hnd : ∀ SL TL t1, ANSS16.setupLists cfg lv K db t = .ok (SL, TL, t1) →
      (SL.map (·.1)).Nodup ∧ ∀ L ∈ TL, (L.map (·.1)).Nodup)
    (hnd' : ∀ SL TL t1, ANSS16.setupLists cfg lv K' db' u = .ok (SL, TL, t1) →
      (SL.map (·.1)).Nodup ∧ ∀ L ∈ TL, (L.map (·.1)).Nodup)
    (hN : clog2 db.total = clog2 db'.total) :
    (shapeOf edb.HTS, edb.HTL.map shapeOf) = (shapeOf edb'.HTS, edb'.HTL.map shapeOf) := by
  rw [ANSS16.shape cfg lv hl K db t t1 edb hs hids hfresh hnd,
    ANSS16.shape cfg lv hl K' db' u u1 edb' hs' hids' hfresh' hnd', hN]

/-- what a CT14 index looks like for `t = ⌈log2 N⌉`: `t+1` level tables, level `j` with `2^(t-j)` entries of
    (`l`, `2^j · c`) bytes, `c` the ciphertext length of one identifier -/
def CT14.shapeFor (cfg : CT14Cfg) (t : Nat) : List (List (Nat × Nat)) :=
  (List.range (t + 1)).map fun j => List.replicate (2 ^ (t - j)) (cfg.l.toNat, 2 ^ j * CT14.clen cfg)

/-- CT14 (schemes/CT14/Pi): the index shape is a function of `⌈log2 N⌉` only — number of level tables, entries per table
    and the lengths of all labels and values.  No level ever holds more chunks than the `2^(t-j)` it is padded to: the
    greedy decomposition puts at most one chunk of `2^j ≤ |DB(w)|` identifiers of a keyword on level `j`, and there are
    `2^t` identifiers in all after padding. -/
theorem CT14.shape (raw : RawCfg) (cfg : CT14Cfg) (hcfg : CT14.cfgBuild raw = .ok cfg) (lv : Leaves) (hl : LeafLaws lv)
    (K : Bytes) (db : DB) (t t' : Tape) (HT : List Table) (hs : CT14.setup cfg lv K db t = .ok (HT, t'))
    (hids : ∀ p ∈ db, ∀ x ∈ p.2, x.length = cfg.idSize.toNat) (hfresh : (db.map (·.1) ++ draws32 t).Nodup)
    (hnd : ∀ TL t1, CT14.setupLists cfg lv K db t = .ok (TL, t1) → ∀ L ∈ TL, (L.map (·.1)).Nodup) :
    HT.map shapeOf = CT14.shapeFor cfg (clog2 db.total) := by
  obtain ⟨TL, hr, rfl⟩ := CT14.setup_inv hs
  have n2 := hnd TL _ hr
  obtain ⟨s1, s2⟩ := CT14.setupLists_shape hl (CT14.cfgBuild_usable cfg raw hcfg) hr hids hfresh
  exact shapeOf_levels s1 s2 n2

theorem CT14.shape_indistinguishable (raw : RawCfg) (cfg : CT14Cfg) (hcfg : CT14.cfgBuild raw = .ok cfg) (lv : Leaves)
    (hl : LeafLaws lv) (K K' : Bytes) (db db' : DB) (t t1 u u1 : Tape) (HT HT' : List Table)
    (hs : CT14.setup cfg lv K db t = .ok (HT, t1)) (hs' : CT14.setup cfg lv K' db' u = .ok (HT', u1))
    (hids : ∀ p ∈ db, ∀ x ∈ p.2, x.length = cfg.idSize.toNat) (hids' : ∀ p ∈ db', ∀ x ∈ p.2, x.length = cfg.idSize.toNat)
    (hfresh : (db.map (·.1) ++ draws32 t).Nodup) (hfresh' : (db'.map (·.1) ++ draws32 u).Nodup)
    (hnd : ∀ TL t1, CT14.setupLists cfg lv K db t = .ok (TL, t1) → ∀ L ∈ TL, (L.map (·.1)).Nodup)
    (hnd' : ∀ TL t1, CT14.setupLists cfg lv K' db' u = .ok (TL, t1) → ∀ L ∈ TL, (L.map (·.1)).Nodup)
    (hN : clog2 db.total = clog2 db'.total) : HT.map shapeOf = HT'.map shapeOf := by
  rw [CT14.shape raw cfg hcfg lv hl K db t t1 HT hs hids hfresh hnd,
    CT14.shape raw cfg hcfg lv hl K' db' u u1 HT' hs' hids' hfresh' hnd', hN]

/-- SSE-1 (schemes/CGKO06/SSE1): the index shape is a function of the configuration only — the scheme's leakage names no
    size parameter, and none shows.  The array has `param_s` cells, every one of the length of one encrypted node
    (`id ‖ key ‖ address`; cells no node was written to are filled with random strings of exactly that length), and every
    entry of the look-up table has a `param_l`-byte label and a `⌈log2 s / 8⌉ + k`-byte value; the table has exactly
    `param_dictionary_size` entries when the keywords are distinct and at most that many, their labels are distinct (π is a
    permutation: `SSE1.gammaInj_of_noLeadingNul`) and the `param_l`-byte draws of the run, the random filler labels among
    them, are pairwise distinct and none is a label. -/
theorem SSE1.shape (raw : RawCfg) (cfg : SSE1Cfg) (hcfg : SSE1.cfgBuild raw = .ok cfg) (lv : Leaves) (hl : LeafLaws lv)
    (h2 : 2 ≤ cfg.log2s) (hl8 : 2 ≤ (cfg.l * 8).toNat) (K1 K2 K3 K4 : Bytes) (db : DB) (t t' : Tape) (edb : SSE1EDB)
    (hs : SSE1.setup cfg lv [K1, K2, K3, K4] db t = .ok (edb, t'))
    (hidl : ∀ p ∈ db, ∀ x ∈ p.2, x.length = cfg.idSize.toNat) :
    edb.A.map List.length = List.replicate cfg.s.toNat (SSE1.nodeLen cfg) ∧
    (∀ e ∈ edb.T, e.1.length = cfg.l.toNat ∧ e.2.length = cfg.log2sBytes + cfg.k.toNat) ∧
    ((db.map (·.1)).Nodup → SSE1.GammaInj cfg lv K3 db → db.length ≤ cfg.dictSize.toNat →
      (drawsLen cfg.l.toNat t).Nodup →
      (∀ p ∈ db, ∀ g, SSE1.piBytes cfg lv K3 p.1 = .ok g → g ∉ drawsLen cfg.l.toNat t) →
      edb.T.length = cfg.dictSize.toNat) := by
  obtain ⟨hA, hT⟩ := SSE1.setup_shape hl (SSE1.cfgBuild_usable cfg raw hcfg) h2 hs hidl
  exact ⟨hA, hT, SSE1.setup_table_length hs⟩

/-- DP17 (schemes/DP17/Pi), the arrays: for every level `j` of the index, `A_j` has one byte string per bucket —
    `⌈(2N + 2^(j+1)) / 2^(j+1)⌉` of them — and bucket `x` is `cells(x) · param_identifier_cipher_len` bytes long, `cells` the
    bucket sizes `_divide_to_buckets(2N + 2^(j+1), 2^(j+1))` gives: a function of `N` and the configuration.  What a bucket
    holds does not show: stored entries + padding = cells is an invariant of `_Enc` (a chunk only goes to a bucket with at
    least `2^j` free cells and has at most `2^j` entries).  `hnd`: no level occurs twice in the level list — a fact about
    N and the configuration that cannot be proved of `levelsOf`, which goes through `Float` (see
    `C01.DP17.enc_no_index_error`; `hlv` only names the list, `levelsOf` always returns); it fails for N = 1 with
    param_L > 1 (levels [0, 0]), where the code pads level 0 twice and the theorem does not apply. -/
theorem DP17.arrays_shape (raw : RawCfg) (cfg : DP17Cfg) (hcfg : DP17.cfgBuild raw = .ok cfg) (lv : Leaves) (hl : LeafLaws lv)
    (k1 k2 k3 : Bytes) (db : DB) (t t' : Tape) (edb : DP17EDB)
    (hs : DP17.setup cfg lv [k1, k2, k3] db t = .ok (edb, t'))
    (hidl : ∀ p ∈ db, ∀ id ∈ p.2, (id.length : Int) = cfg.idSize)
    (levels : List Int) (hlv : DP17.levelsOf cfg db.total = .ok levels) (hnd : levels.Nodup) :
    ∀ j ∈ levels, ∃ arr, edb.A.lookup j = some arr ∧
      arr.map List.length = (DP17.sizesOf db.total j).map (· * cfg.cipherLen) := by
  cases (DP17.levelsOf_eq cfg db.total).symm.trans hlv
  obtain ⟨_, hlam, hclen⟩ := DP17.cfgBuild_accepted cfg raw hcfg
  obtain ⟨ls0, ls1, HT, t1, t2, run⟩ := DP17.setup_inv cfg lv hs
  -- what the keyword loop leaves of level `j`: the bucket invariant for the sizes of `j`, and postings of the database,
  -- whose plaintexts `id ‖ 0^λ` have the length `hclen` computes the cell length from
  have hinv : ∀ j ∈ DP17.levelsList cfg db.total, ∀ l, DP17.getLevel ls1 j = some l →
      DP17.BInv (DP17.sizesOf db.total j) l ∧
      ∀ b ∈ l.buckets, DP17.EntP (fun _ id => id.length + cfg.lambda.toNat = (cfg.idSize + cfg.lambda).toNat) b := by
    intro j _ l hget
    have hl1 : l ∈ ls1 := DP17.getLevel_mem hget
    have hb := run.binv l hl1
    rw [DP17.getLevel_lev hget] at hb
    exact ⟨hb, run.idLen hlam hidl l hl1⟩
  exact (DP17.finishLevels_shape cfg lv hl.enc_len _ hclen db.total run.finish hnd hinv).1

/-- SSE-2 (schemes/CGKO06/SSE2): the index has exactly `N` entries — one per posting, no two postings share an address
    and nothing else is stored — and every address lies in the `8·param_l + bits(n + max)`-bit range of the PRP: the only
    thing the size of the index tells is `N`.  On a valid database: distinct keywords without a leading NUL byte, no
    identifier posted more than `param_max` times (so that the filler loop is empty).  The values are the identifiers in
    clear, as the scheme's definition has it. -/
theorem SSE2.shape (raw : RawCfg) (cfg : SSE2Cfg) (hcfg : SSE2.cfgBuild raw = .ok cfg) (lv : Leaves) (hl : LeafLaws lv)
    (K1 : Bytes) (db : DB) (I : ITable) (hs : SSE2.setup cfg lv K1 db = .ok I) (hkeys : (db.map (·.1)).Nodup)
    (hvalid : ∀ p ∈ db, NoLeadingNul p.1) (hcap : ∀ id, (db.flatMap (·.2)).count id ≤ cfg.max) :
    I.length = db.total ∧ ∀ e ∈ I, e.1 < 2 ^ ((cfg.l * 8).toNat + cfg.bitsNM) := by
  have hu := (SSE2.cfgBuild_usable cfg raw hcfg).1
  -- the index is the list of the writes, one per posting, each at an address the PRP returned
  have hnd : ∀ ws, SSE2.writes cfg lv K1 db = .ok ws → (ws.map (·.1)).Nodup := fun _ h =>
    SSE2.writes_nodup hl.hmac_len hu.lbits hu.bits hkeys hvalid h
  have hws : SSE2.writes cfg lv K1 db = .ok I := SSE2.setup_index hs (SSE2.cap_of_count cfg lv K1 db hcap) hnd
  refine ⟨SSE2.writes_length hws, fun e he => ?_⟩
  obtain ⟨w, _, i, _, ha, _⟩ := (SSE2.mem_writes hws e).mp he
  obtain ⟨_, hlt, _⟩ := SSE2.addr_inv hl.hmac_len hu.lbits hu.bits ha
  exact hlt

/-- SSE-2: the same number of entries -/
theorem SSE2.shape_indistinguishable (raw : RawCfg) (cfg : SSE2Cfg) (hcfg : SSE2.cfgBuild raw = .ok cfg) (lv : Leaves)
    (hl : LeafLaws lv) (K1 K1' : Bytes) (db db' : DB) (I I' : ITable)
    (hs : SSE2.setup cfg lv K1 db = .ok I) (hs' : SSE2.setup cfg lv K1' db' = .ok I')
    (hkeys : (db.map (·.1)).Nodup) (hkeys' : (db'.map (·.1)).Nodup)
    (hvalid : ∀ p ∈ db, NoLeadingNul p.1) (hvalid' : ∀ p ∈ db', NoLeadingNul p.1)
    (hcap : ∀ id, (db.flatMap (·.2)).count id ≤ cfg.max) (hcap' : ∀ id, (db'.flatMap (·.2)).count id ≤ cfg.max)
    (hN : db.total = db'.total) : I.length = I'.length := by
  rw [(SSE2.shape raw cfg hcfg lv hl K1 db I hs hkeys hvalid hcap).1,
    (SSE2.shape raw cfg hcfg lv hl K1' db' I' hs' hkeys' hvalid' hcap').1, hN]

/-- PiPtr (schemes/CJJ14/PiPtr): the index shape is a function of (blocks, pointer blocks) — the array has
    `Σ_w ⌈|DB(w)|/B⌉ + 1` cells and every occupied cell has the ciphertext length of a full block of `B` identifiers (the last,
    partly filled block of a keyword included: it is padded before it is encrypted); the dictionary has one entry per
    pointer block, `Σ_w ⌈⌈|DB(w)|/B⌉/b⌉` of them, each a label of the PRF's output length and the ciphertext of a full block
    of `b` pointers of `⌈log2 |A| / 8⌉` bytes.  `hh` holds of every accepted configuration. -/
theorem PiPtr.shape (raw : RawCfg) (cfg : PiPtrCfg) (hcfg : PiPtr.cfgBuild raw = .ok cfg) (lv : Leaves) (hl : LeafLaws lv)
    (hh : cfg.prfF.hashLen = 20) (K : Bytes) (db : DB) (t t' : Tape) (edb : PiPtrEDB)
    (h : PiPtr.setup cfg lv K db t = .ok (edb, t'))
    (hids : ∀ p ∈ db, ∀ id ∈ p.2, id.length = cfg.idSize.toNat)
    (hn : ∀ sample t0 L A t1, takeNats t = .ok (sample, t0) →
      PiPtr.encDb cfg lv K (bytesFor (PiPtr.arrayLen cfg db)) db sample (List.replicate (PiPtr.arrayLen cfg db) none) t0
        = .ok (L, A, t1) → (L.map (·.1)).Nodup) :
    edb.A.length = PiPtr.arrayLen cfg db ∧
    (∀ c, some c ∈ edb.A → c.length = PiPtr.clen (cfg.B.toNat * cfg.idSize.toNat)) ∧
    (edb.D.map fun p => (p.1.length, p.2.length)).Perm
      (List.replicate (PiPtr.nPtrBlocks cfg db)
        (cfg.prfF.outputLength.toNat, PiPtr.clen (cfg.b.toNat * bytesFor (PiPtr.arrayLen cfg db)))) := by
  obtain ⟨hg, _⟩ := PiPtr.cfgBuild_accepted hcfg
  obtain ⟨sample, t0, L, h1, _, h2, hD⟩ := PiPtr.setup_inv cfg lv h
  obtain ⟨a1, a2, a3⟩ := PiPtr.encDb_shape cfg lv hl hh hg h2 hids
  refine ⟨a1, a2, ?_⟩
  rw [hD, ← a3]
  exact (buildTable_perm L (hn sample t0 L _ _ h1 h2)).map _

theorem PiPtr.shape_indistinguishable (raw : RawCfg) (cfg : PiPtrCfg) (hcfg : PiPtr.cfgBuild raw = .ok cfg) (lv : Leaves)
    (hl : LeafLaws lv) (hh : cfg.prfF.hashLen = 20) (K K' : Bytes) (db db' : DB) (t t' u u' : Tape) (e e' : PiPtrEDB)
    (h : PiPtr.setup cfg lv K db t = .ok (e, t')) (h' : PiPtr.setup cfg lv K' db' u = .ok (e', u'))
    (hids : ∀ p ∈ db, ∀ id ∈ p.2, id.length = cfg.idSize.toNat)
    (hids' : ∀ p ∈ db', ∀ id ∈ p.2, id.length = cfg.idSize.toNat)
    (hn : ∀ sample t0 L A t1, takeNats t = .ok (sample, t0) →
      PiPtr.encDb cfg lv K (bytesFor (PiPtr.arrayLen cfg db)) db sample (List.replicate (PiPtr.arrayLen cfg db) none) t0
        = .ok (L, A, t1) → (L.map (·.1)).Nodup)
    (hn' : ∀ sample t0 L A t1, takeNats u = .ok (sample, t0) →
      PiPtr.encDb cfg lv K' (bytesFor (PiPtr.arrayLen cfg db')) db' sample (List.replicate (PiPtr.arrayLen cfg db') none) t0
        = .ok (L, A, t1) → (L.map (·.1)).Nodup)
    (hA : PiPtr.arrayLen cfg db = PiPtr.arrayLen cfg db') (hP : PiPtr.nPtrBlocks cfg db = PiPtr.nPtrBlocks cfg db') :
    e.A.length = e'.A.length ∧
    (∀ c c', some c ∈ e.A → some c' ∈ e'.A → c.length = c'.length) ∧
    (e.D.map fun p => (p.1.length, p.2.length)).Perm (e'.D.map fun p => (p.1.length, p.2.length)) := by
  obtain ⟨a1, a2, a3⟩ := PiPtr.shape raw cfg hcfg lv hl hh K db t t' e h hids hn
  obtain ⟨b1, b2, b3⟩ := PiPtr.shape raw cfg hcfg lv hl hh K' db' u u' e' h' hids' hn'
  refine ⟨?_, fun c c' hc hc' => ?_, ?_⟩
  · rw [a1, b1, hA]
  · rw [a2 c hc, b2 c' hc']
  · rw [hA, hP] at a3
    exact a3.trans b3.symm

/-- Pi2Lev (schemes/CJJ14/Pi2Lev): the index shape is a function of (keywords, array length) — the array has `arrayLen` cells
    and every occupied cell has the ciphertext length of `mark ‖ block` for a block of exactly `B · idsize` bytes, whether it
    holds identifiers, first-level pointers or second-level pointers (all are padded to the array block before they are
    encrypted); the dictionary has one entry per keyword, each a label of the PRF's output length and the ciphertext of
    `mark ‖ content` padded to `b · idsize` bytes — a small list, a pointer list (at most `b'` pointers of
    `⌊b·idsize / b'⌋` bytes) and a second-level pointer list all fit that block (the three size classes of `_Enc`).  For a
    positive pointer width (`hidx`); `hh` as for PiPtr. -/
theorem Pi2Lev.shape (raw : RawCfg) (cfg : Pi2LevCfg) (hcfg : Pi2Lev.cfgBuild raw = .ok cfg) (hidx : 0 < cfg.idxSize)
    (lv : Leaves) (hl : LeafLaws lv) (hh : cfg.prfF.hashLen = 20) (K : Bytes) (db : DB) (t t' : Tape) (edb : PiPtrEDB)
    (h : Pi2Lev.setup cfg lv K db t = .ok (edb, t'))
    (hids : ∀ p ∈ db, ∀ id ∈ p.2, id.length = cfg.idSize.toNat)
    (hn : ∀ sample t0 L A t1, takeNats t = .ok (sample, t0) →
      Pi2Lev.encDb cfg lv K db sample (List.replicate (Pi2Lev.arrayLen cfg db) none) t0 = .ok (L, A, t1) →
      (L.map (·.1)).Nodup) :
    edb.A.length = Pi2Lev.arrayLen cfg db ∧
    (∀ c, some c ∈ edb.A → c.length = PiPtr.clen (1 + (cfg.B * cfg.idSize).toNat)) ∧
    (edb.D.map fun p => (p.1.length, p.2.length)).Perm
      (List.replicate db.length (cfg.prfF.outputLength.toNat, PiPtr.clen (1 + (cfg.b * cfg.idSize).toNat))) := by
  obtain ⟨hg, _⟩ := Pi2Lev.cfgBuild_accepted hcfg hidx
  obtain ⟨sample, t0, L, _, _, h1, _, h2, hD⟩ := Pi2Lev.setup_inv cfg lv h
  obtain ⟨a1, a2, a3⟩ := Pi2Lev.encDb_shape cfg lv hl hh hg h2 hids
  refine ⟨a1, a2, ?_⟩
  rw [hD, ← a3]
  exact (buildTable_perm L (hn sample t0 L _ _ h1 h2)).map _

/-- Pi2Lev: small, medium and large lists are indistinguishable by shape -/
theorem Pi2Lev.shape_indistinguishable (raw : RawCfg) (cfg : Pi2LevCfg) (hcfg : Pi2Lev.cfgBuild raw = .ok cfg)
    (hidx : 0 < cfg.idxSize) (lv : Leaves) (hl : LeafLaws lv) (hh : cfg.prfF.hashLen = 20) (K K' : Bytes) (db db' : DB)
    (t t' u u' : Tape) (e e' : PiPtrEDB)
    (h : Pi2Lev.setup cfg lv K db t = .ok (e, t')) (h' : Pi2Lev.setup cfg lv K' db' u = .ok (e', u'))
    (hids : ∀ p ∈ db, ∀ id ∈ p.2, id.length = cfg.idSize.toNat)
    (hids' : ∀ p ∈ db', ∀ id ∈ p.2, id.length = cfg.idSize.toNat)
    (hn : ∀ sample t0 L A t1, takeNats t = .ok (sample, t0) →
      Pi2Lev.encDb cfg lv K db sample (List.replicate (Pi2Lev.arrayLen cfg db) none) t0 = .ok (L, A, t1) →
      (L.map (·.1)).Nodup)
    (hn' : ∀ sample t0 L A t1, takeNats u = .ok (sample, t0) →
      Pi2Lev.encDb cfg lv K' db' sample (List.replicate (Pi2Lev.arrayLen cfg db') none) t0 = .ok (L, A, t1) →
      (L.map (·.1)).Nodup)
    (hA : Pi2Lev.arrayLen cfg db = Pi2Lev.arrayLen cfg db') (hW : db.length = db'.length) :
    e.A.length = e'.A.length ∧
    (∀ c c', some c ∈ e.A → some c' ∈ e'.A → c.length = c'.length) ∧
    (e.D.map fun p => (p.1.length, p.2.length)).Perm (e'.D.map fun p => (p.1.length, p.2.length)) := by
  obtain ⟨a1, a2, a3⟩ := Pi2Lev.shape raw cfg hcfg hidx lv hl hh K db t t' e h hids hn
  obtain ⟨b1, b2, b3⟩ := Pi2Lev.shape raw cfg hcfg hidx lv hl hh K' db' u u' e' h' hids' hn'
  refine ⟨?_, fun c c' hc hc' => ?_, ?_⟩
  · rw [a1, b1, hA]
  · rw [a2 c hc, b2 c' hc']
  · rw [hW] at a3
    exact a3.trans b3.symm

/-- DP17, the hash table: exactly `N` entries (the code fills up with random entries after the chunk entries; which entry
    is which is not stated), every key and every value `param_hash_h_digest_size` (`cfg.dsz`) bytes long.  `hd0`, `hsha`:
    `DP17.ShaLen lv d` spelt out.  On the run: the `cfg.dsz`-byte
    draws of the tape are pairwise distinct (`hnd`), and no chunk key `H(F_k1(w) ‖ c)` equals one of them (`hfresh`, said
    of the hash table `HT` that the keyword loop `encDb` returns inside `setup`: hence its binders for the level list, the
    initial levels and the loop's result). -/
theorem DP17.ht_shape (cfg : DP17Cfg) (lv : Leaves) (d : Nat) (hd0 : 0 < d) (hsha : ∀ m, (lv.sha m).length = d)
    (k1 k2 k3 : Bytes) (db : DB) (t t' : Tape) (edb : DP17EDB)
    (hs : DP17.setup cfg lv [k1, k2, k3] db t = .ok (edb, t'))
    (hnd : (drawsLen cfg.dsz t).Nodup)
    (hfresh : ∀ levels ls ls1 HT t1, DP17.levelsOf cfg db.total = .ok levels →
      DP17.initLevels db.total levels [] = .ok ls →
      DP17.encDb cfg lv k1 k2 levels db ls [] t = .ok (ls1, HT, t1) → ∀ g ∈ HT.map (·.1), g ∉ drawsLen cfg.dsz t) :
    edb.HT.length = db.total ∧ ∀ e ∈ edb.HT, e.1.length = cfg.dsz ∧ e.2.length = cfg.dsz := by
  obtain ⟨ls, ls1, HT, t1, t2, run⟩ := DP17.setup_inv cfg lv hs
  have hempty : EntLens [] cfg.dsz cfg.dsz := fun e he => nomatch he
  obtain ⟨e1, e2⟩ := DP17.encDb_ht_shape cfg lv ⟨hd0, hsha⟩ run.enc hempty
  have hsub := drawsLen_suffix cfg.dsz run.suffix1
  obtain ⟨f1, f2⟩ := SSE1.fillT_shape cfg.dsz cfg.dsz _ HT t1 edb.HT t2 (DP17.fillHT_eq_fillT .. ▸ run.fill) e1
  refine ⟨?_, f1⟩
  -- the chunk table has at most `N` entries, `N - |HT|` fillers follow, and each adds one entry: its key is fresh
  have hkeys : ∀ g ∈ HT.map (·.1), g ∉ drawsLen cfg.dsz t1 := fun g hg hin =>
    hfresh _ ls ls1 HT t1 (DP17.levelsOf_eq cfg _) run.init run.enc g hg (hsub.subset hin)
  rw [f2 (List.Nodup.sublist hsub hnd) hkeys]
  simp only [List.length_nil, Nat.zero_add] at e2
  omega

end SSEPy.C05
