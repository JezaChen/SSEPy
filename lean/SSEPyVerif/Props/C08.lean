/-
  C08 — A configuration is either refused loudly or yields a correct scheme.

  * `missing_param_refused_S`, for each of the nine configuration builders: a configuration that lacks (or marks with -1)
    a parameter the builder reads is refused with ValueError when the configuration is built.  The field lists are the
    source's (`Generated/ConfigFacts.lean`): `required_lists_are_source`, `missing_required_param_refused`,
    `reads_are_required`; `SSE2.missing_primitive_refused` is about the two names SSE-2 reads without listing them.
  * `nonpositive_param_refused`, `nonpositive_refused_everywhere`: a `param_*` number that is zero or negative (other than
    the marker -1) is refused by every builder — sizes that would make block partitioning silently return nothing never
    reach the scheme.
  * `S.refused_or_correct`, for each scheme and every raw configuration (any integers, any primitive names): the builder
    refuses it, or setup fails (`∃ e, setup … = .error e`: any error of the model, `.miss` included), or — under the
    hypotheses about the run that C01 names — the token of a stored keyword is generated and the search returns its list
    (DP17: given the token, the same set; SSE-2: no hypothesis about the run, and no failing setup for a valid database).
    `PiBas.mismatch_is_loud`: for an accepted PiBas configuration with `prf_f_output_length ≠ param_lambda`, `setup` fails
    on every database that has a posting.
  Non-integer values (float, string, None) for integer fields are outside the theorems; the correspondence enumerates
  them on the real code.

  Names: `C01.S.x` is a theorem of `Props/C01.lean`; an unprefixed `S.x` is this file's where it declares one, and
  otherwise `Sch.S.x` of `Model/Schemes` or `Proofs/Schemes` (`PiBas.cfgBuild`, `Chain.setup_loud`, `DP17.ProbesClean`).
-/
import SSEPyVerif.Props.C01
import SSEPyVerif.Generated.ConfigFacts
namespace SSEPy.C08
open SSEPy.Sch

/-- what "lacks a needed parameter" means for a builder that reads the fields `fields` -/
def Lacks (fields : List String) (raw : RawCfg) : Prop :=
  ∃ f ∈ fields, raw.get f = none ∨ raw.get f = some (.int (-1))

theorem missing_param_refused_PiBas :
    ∀ raw, Lacks ["param_lambda", "prf_f_output_length", "prf_f", "ske"] raw → PiBas.cfgBuild raw = .error .valueError :=
  fun raw ⟨f, hf, hm⟩ => guarded_refused _ raw _ (.inr (checkParamExist_refuses _ raw f hf hm))

theorem missing_param_refused_PiPack :
    ∀ raw, Lacks ["param_lambda", "param_B", "prf_f_output_length", "param_identifier_size", "prf_f", "ske"] raw →
      PiPack.cfgBuild raw = .error .valueError :=
  fun raw ⟨f, hf, hm⟩ => guarded_refused _ raw _ (.inr (checkParamExist_refuses _ raw f hf hm))

theorem missing_param_refused_PiPtr :
    ∀ raw, Lacks ["param_lambda", "param_B", "param_b", "prf_f_output_length", "param_identifier_size", "prf_f", "ske"] raw →
      PiPtr.cfgBuild raw = .error .valueError :=
  fun raw ⟨f, hf, hm⟩ => guarded_refused _ raw _ (.inr (checkParamExist_refuses _ raw f hf hm))

theorem missing_param_refused_Pi2Lev :
    ∀ raw, Lacks ["param_lambda", "param_B", "param_b", "param_B_prime", "param_b_prime", "prf_f_output_length",
                  "param_identifier_size", "prf_f", "ske"] raw → Pi2Lev.cfgBuild raw = .error .valueError :=
  fun raw ⟨f, hf, hm⟩ => guarded_refused _ raw _ (.inr (checkParamExist_refuses _ raw f hf hm))

theorem missing_param_refused_CT14 :
    ∀ raw, Lacks ["param_k", "param_k_prime", "param_l", "param_identifier_size", "prf_f", "prf_f_prime", "ske"] raw →
      CT14.cfgBuild raw = .error .valueError :=
  fun raw ⟨f, hf, hm⟩ => guarded_refused _ raw _ (.inr (checkParamExist_refuses _ raw f hf hm))

theorem missing_param_refused_ANSS16 :
    ∀ raw, Lacks ["param_lambda", "param_k", "param_k_prime", "param_l", "param_l_prime", "param_identifier_size", "prf", "ske"] raw →
      ANSS16.cfgBuild raw = .error .valueError :=
  fun raw ⟨f, hf, hm⟩ => guarded_refused _ raw _ (.inr (checkParamExist_refuses _ raw f hf hm))

theorem missing_param_refused_SSE1 :
    ∀ raw, Lacks ["param_k", "param_l", "param_s", "param_dictionary_size", "param_identifier_size",
                  "prp_pi", "prp_psi", "prf_f", "ske1", "ske2"] raw → SSE1.cfgBuild raw = .error .valueError :=
  fun raw ⟨f, hf, hm⟩ => guarded_refused _ raw _ (.inr (checkParamExist_refuses _ raw f hf hm))

theorem missing_param_refused_SSE2 :
    ∀ raw, Lacks ["param_k", "param_l", "param_n", "param_max_file_size"] raw → SSE2.cfgBuild raw = .error .valueError :=
  fun raw ⟨f, hf, hm⟩ => guarded_refused _ raw _ (.inr (checkParamExist_refuses _ raw f hf hm))

theorem missing_param_refused_DP17 :
    ∀ raw, Lacks ["param_lambda", "param_actual_storage_level_ratio", "param_L", "param_identifier_size", "rnd", "prf_f", "hash_h"] raw →
      DP17.cfgBuild raw = .error .valueError :=
  fun raw ⟨f, hf, hm⟩ => guarded_refused _ raw _ (.inr (checkParamExist_refuses _ raw f hf hm))

theorem nonpositive_param_refused (raw : RawCfg) (f : String) (z : Int) (hm : (f, RawVal.int z) ∈ raw)
    (hf : f.startsWith "param_" = true) (hz : z ≤ 0) (hz1 : z ≠ -1) : checkParamPositive raw = .error .valueError :=
  checkParamPositive_refuses raw f z hm hf hz hz1

/-- every builder starts with `checkParamPositive` (`SSEConfig.__init__` calls `check_param_positive` before the scheme's
    `_parse_config` runs): a configuration that check refuses is refused by all nine builders -/
theorem nonpositive_refused_everywhere (raw : RawCfg) (h : checkParamPositive raw = .error .valueError) :
    PiBas.cfgBuild raw = .error .valueError ∧ PiPack.cfgBuild raw = .error .valueError ∧
    PiPtr.cfgBuild raw = .error .valueError ∧ Pi2Lev.cfgBuild raw = .error .valueError ∧
    CT14.cfgBuild raw = .error .valueError ∧ ANSS16.cfgBuild raw = .error .valueError ∧
    SSE1.cfgBuild raw = .error .valueError ∧ SSE2.cfgBuild raw = .error .valueError ∧
    DP17.cfgBuild raw = .error .valueError :=
  have r {α : Type} (fields : List String) (rest : Except Err α) := guarded_refused fields raw rest (.inl h)
  ⟨r _ _, r _ _, r _ _, r _ _, r _ _, r _ _, r _ _, r _ _, r _ _⟩

theorem PiBas.refused_or_correct (raw : RawCfg) (lv : Leaves) (hl : LeafLaws lv) (K : Bytes) (db : DB) (t : Tape)
    (w : Bytes) (ids : List Bytes) (hm : (w, ids) ∈ db) :
    (∃ e, PiBas.cfgBuild raw = .error e) ∨
    ∃ cfg, PiBas.cfgBuild raw = .ok cfg ∧
      ((∃ e, Chain.setup cfg lv K db t = .error e) ∨
       ∃ D t', Chain.setup cfg lv K db t = .ok (D, t') ∧
         ((∀ L, Chain.encDb cfg lv K db t = .ok (L, t') → C01.Chain.NoColl cfg lv K db L) →
           ∃ tk, Chain.token cfg lv K w = .ok tk ∧ Chain.search cfg lv D tk = .ok ids)) :=
  refused_or_loud_or _ _ _ fun cfg D t' hc hs hnc =>
    C01.PiBas.search_stored raw cfg hc lv hl K db t t' D hs hnc w ids hm

/-- PiBas, the accepted configurations split in two with nothing in between: `prf_f_output_length = param_lambda` gives a
    scheme that sets up and searches correctly (`C01.PiBas.correct`); with any other output length `setup` returns no
    index for a database that has a posting — never an index that answers wrongly.  The statement does not say which
    error or where (in the code a ValueError of the PRF, at the latest for the key `K1` of the wrong length at the first
    posting; in the model also `.miss`, if the tape ends before that). -/
theorem PiBas.mismatch_is_loud (raw : RawCfg) (cfg : ChainCfg) (hcfg : PiBas.cfgBuild raw = .ok cfg) (lv : Leaves)
    (hl : LeafLaws lv) (lam out : Int) (hlam : getInt raw "param_lambda" = .ok lam)
    (hout : getInt raw "prf_f_output_length" = .ok out) (hne : out ≠ lam) (K : Bytes) (db : DB) (t : Tape)
    (hdb : ∃ p ∈ db, p.2 ≠ []) : ∃ e, Chain.setup cfg lv K db t = .error e := by
  have hpack := PiBas.pack_eq hcfg
  obtain ⟨out', p⟩ := PiBas.cfgBuild_inv hcfg
  cases hlam.symm.trans p.getLambda
  cases hout.symm.trans p.getOut
  -- `AESxCBC.new` accepted `param_lambda`, so it is 16, 24 or 32: a PRF key length that is given, and not the digest
  -- size 20 that the output length `0` ("not given") stands for
  obtain ⟨hpos, h20⟩ : 0 < cfg.lambda ∧ cfg.lambda ≠ 20 := by
    have := new_keyLength _ _ p.ske
    omega
  have hkey : cfg.prfF.keyLength = cfg.lambda := by
    rw [p.prfF]
    rfl
  have hlen : (cfg.prfF.outputLength.toNat : Int) ≠ cfg.prfF.keyLength := by
    rw [hkey, p.prfF]
    by_cases h0 : out = 0
    · subst h0
      rw [HmacPRF.new_out_zero]
      exact fun e => h20 e.symm
    · rw [HmacPRF.new_out_ne h0]
      omega
  have hgiven : cfg.prfF.keyLength ≠ LENGTH_UNLIMITED := by
    rw [hkey]
    show cfg.lambda ≠ -1
    omega
  obtain ⟨q, hq, hqne⟩ := hdb
  have hblock : ∃ p ∈ db, ∀ chs, cfg.pack p.2 = .ok chs → chs ≠ [] := by
    refine ⟨q, hq, fun chs hch => ?_⟩
    cases (hpack q.2).symm.trans hch
    exact hqne
  exact Chain.setup_loud cfg lv hl.hmac_len K db t (PiBas.cfgBuild_hashLen hcfg) hgiven hlen hblock

/-- SSE-2: nothing is assumed about the run — the scheme an accepted configuration yields sets up every valid database under
    every key half of `param_k` bytes and answers every stored keyword with its list (`C01.SSE2.correct`).  No accepted
    SSE-2 configuration raises later or answers wrongly: the bit widths of the address (`8·param_l` for the keyword,
    `bits(n + max)` for the counter) are all derived inside the builder. -/
theorem SSE2.refused_or_correct (raw : RawCfg) (lv : Leaves) (hl : LeafLaws lv) :
    (∃ e, SSE2.cfgBuild raw = .error e) ∨
    ∃ cfg, SSE2.cfgBuild raw = .ok cfg ∧
      ∀ (K1 : Bytes) (db : DB), (K1.length : Int) = cfg.k → (db.map (·.1)).Nodup →
        (∀ p ∈ db, NoLeadingNul p.1 ∧ (p.1.length : Int) ≤ cfg.l ∧ p.2.length ≤ cfg.n.toNat) →
        (∀ id, (db.flatMap (·.2)).count id ≤ cfg.max) →
        ∃ I, SSE2.setup cfg lv K1 db = .ok I ∧
          ∀ w ids, (w, ids) ∈ db → ∃ tk, SSE2.token cfg lv K1 w = .ok tk ∧ SSE2.search I tk = ids := by
  cases hc : SSE2.cfgBuild raw with
  | error e => exact Or.inl ⟨e, rfl⟩
  | ok cfg =>
    exact Or.inr ⟨cfg, rfl, fun K1 db hK hkeys hvalid hcap =>
      C01.SSE2.correct raw cfg hc lv hl K1 hK db hkeys hvalid hcap⟩

/-! The side conditions inside the statements below (`0 < idxSize`, `2 ≤ log2 s`) are the ones under which the scheme can
    address its array at all. -/

theorem PiPack.refused_or_correct (raw : RawCfg) (lv : Leaves) (hl : LeafLaws lv) (K : Bytes) (db : DB) (t : Tape)
    (w : Bytes) (ids : List Bytes) (hm : (w, ids) ∈ db) (hv : ValidIdsFor raw ids) :
    (∃ e, PiPack.cfgBuild raw = .error e) ∨
    ∃ cfg, PiPack.cfgBuild raw = .ok cfg ∧
      ((∃ e, Chain.setup cfg lv K db t = .error e) ∨
       ∃ D t', Chain.setup cfg lv K db t = .ok (D, t') ∧
         ((∀ L, Chain.encDb cfg lv K db t = .ok (L, t') → C01.Chain.NoColl cfg lv K db L) →
           ∃ tk, Chain.token cfg lv K w = .ok tk ∧ Chain.search cfg lv D tk = .ok ids)) :=
  refused_or_loud_or _ _ _ fun cfg D t' hc hs hnc =>
    C01.PiPack.search_stored raw cfg hc lv hl K db t t' D hs hnc w ids hm hv

theorem PiPtr.refused_or_correct (raw : RawCfg) (lv : Leaves) (hl : LeafLaws lv) (K : Bytes) (db : DB) (t : Tape)
    (hsample : ∀ avail t0, takeNats t = .ok (avail, t0) → avail.Nodup ∧ ∀ p ∈ avail, 0 < p)
    (w : Bytes) (ids : List Bytes) (hm : (w, ids) ∈ db) (hne : ids ≠ []) :
    (∃ e, PiPtr.cfgBuild raw = .error e) ∨
    ∃ cfg, PiPtr.cfgBuild raw = .ok cfg ∧
      ((∃ e, PiPtr.setup cfg lv K db t = .error e) ∨
       ∃ edb t', PiPtr.setup cfg lv K db t = .ok (edb, t') ∧
         (C17.ValidIds ids cfg.idSize.toNat →
          (∀ L A avail t0, takeNats t = .ok (avail, t0) →
            PiPtr.encDb cfg lv K (bytesFor (PiPtr.arrayLen cfg db)) db avail (List.replicate (PiPtr.arrayLen cfg db) none) t0
              = .ok (L, A, t') → PiPtr.NoColl cfg lv K L w ids) →
           ∃ tk, PiPtr.token cfg lv K w = .ok tk ∧ PiPtr.search cfg lv edb tk = .ok ids)) :=
  refused_or_loud_or _ _ _ fun cfg edb t' hc hs hv hnc =>
    C01.PiPtr.search_stored raw cfg hc lv hl K db t t' edb hs hsample w ids hm hne hv hnc

theorem Pi2Lev.refused_or_correct (raw : RawCfg) (lv : Leaves) (hl : LeafLaws lv) (K : Bytes) (db : DB) (t : Tape)
    (hsample : ∀ avail t0, takeNats t = .ok (avail, t0) → avail.Nodup ∧ ∀ p ∈ avail, 0 < p)
    (w : Bytes) (ids : List Bytes) (hm : (w, ids) ∈ db) (hne : ids ≠ []) :
    (∃ e, Pi2Lev.cfgBuild raw = .error e) ∨
    ∃ cfg, Pi2Lev.cfgBuild raw = .ok cfg ∧
      ((∃ e, Pi2Lev.setup cfg lv K db t = .error e) ∨
       ∃ edb t', Pi2Lev.setup cfg lv K db t = .ok (edb, t') ∧
         (0 < cfg.idxSize → C17.ValidIds ids cfg.idSize.toNat →
          (∀ L A avail t0, takeNats t = .ok (avail, t0) →
            Pi2Lev.encDb cfg lv K db avail (List.replicate (Pi2Lev.arrayLen cfg db) none) t0 = .ok (L, A, t') →
              (L.map (·.1)).Nodup) →
           ∃ tk, Pi2Lev.token cfg lv K w = .ok tk ∧ Pi2Lev.search cfg lv edb tk = .ok ids)) :=
  refused_or_loud_or _ _ _ fun cfg edb t' hc hs hidx hv hnc =>
    C01.Pi2Lev.search_stored raw cfg hc hidx lv hl K db t t' edb hs hsample w ids hm hne hv hnc

theorem CT14.refused_or_correct (raw : RawCfg) (lv : Leaves) (hl : LeafLaws lv) (K : Bytes) (db : DB) (t : Tape)
    (hg : GoodTape t) (w : Bytes) (ids : List Bytes) :
    (∃ e, CT14.cfgBuild raw = .error e) ∨
    ∃ cfg, CT14.cfgBuild raw = .ok cfg ∧
      ((∃ e, CT14.setup cfg lv K db t = .error e) ∨
       ∃ HT t', CT14.setup cfg lv K db t = .ok (HT, t') ∧
         ((∀ x ∈ ids, x.length = cfg.idSize.toNat) →
          (∀ pdb t1, padLoop cfg.idSize.toNat (2 ^ clog2 db.total) (2 ^ clog2 db.total + 1) db db.total t = .ok (pdb, t1) →
            (w, ids) ∈ pdb) →
          (∀ TL, CT14.setupLists cfg lv K db t = .ok (TL, t') → CT14.NoColl cfg lv K TL w ids) →
           ∃ tk, CT14.token cfg lv K w = .ok tk ∧ CT14.search cfg lv HT tk = .ok ids)) :=
  refused_or_loud_or _ _ _ fun cfg HT t' hc hs hidlen hpad hnc =>
    C01.CT14.search_stored raw cfg hc lv hl K db t t' HT hs hg w ids hidlen hpad hnc

theorem ANSS16.refused_or_correct (raw : RawCfg) (lv : Leaves) (hl : LeafLaws lv) (K : Bytes) (db : DB) (t : Tape)
    (hg : GoodTape t) (w : Bytes) (ids : List Bytes) :
    (∃ e, ANSS16.cfgBuild raw = .error e) ∨
    ∃ cfg, ANSS16.cfgBuild raw = .ok cfg ∧
      ((∃ e, ANSS16.setup cfg lv K db t = .error e) ∨
       ∃ edb t', ANSS16.setup cfg lv K db t = .ok (edb, t') ∧
         ((∀ x ∈ ids, x.length = cfg.idSize.toNat) →
          (∀ pdb t1, padLoop cfg.idSize.toNat (2 ^ clog2 db.total) (2 ^ clog2 db.total + 1) db db.total t = .ok (pdb, t1) →
            (w, ids) ∈ pdb) →
          (∀ SL TL, ANSS16.setupLists cfg lv K db t = .ok (SL, TL, t') →
            (SL.map (·.1)).Nodup ∧ ∀ l ∈ TL, (l.map (·.1)).Nodup) →
           ∃ tk, ANSS16.token cfg lv K w = .ok tk ∧ ANSS16.search cfg lv edb tk = .ok ids)) :=
  refused_or_loud_or _ _ _ fun cfg edb t' hc hs hidlen hpad hnc =>
    C01.ANSS16.search_stored raw cfg hc lv hl K db t t' edb hs hg w ids hidlen hpad hnc

/-- SSE-1: with no collision hypothesis on ψ or π, under the other hypotheses of `C01.SSE1.search_stored_valid` -/
theorem SSE1.refused_or_correct (raw : RawCfg) (lv : Leaves) (hl : LeafLaws lv) (K1 K2 K3 K4 : Bytes) (db : DB) (t : Tape)
    (hkeys : (db.map (·.1)).Nodup) (hvalid : ∀ p ∈ db, NoLeadingNul p.1) (w : Bytes) (ids : List Bytes) (hm : (w, ids) ∈ db) :
    (∃ e, SSE1.cfgBuild raw = .error e) ∨
    ∃ cfg, SSE1.cfgBuild raw = .ok cfg ∧
      ((∃ e, SSE1.setup cfg lv [K1, K2, K3, K4] db t = .error e) ∨
       ∃ edb t', SSE1.setup cfg lv [K1, K2, K3, K4] db t = .ok (edb, t') ∧
         (2 ≤ cfg.log2s → 2 ≤ (cfg.l * 8).toNat → SSE1.KeysGood cfg t →
          (∀ p ∈ db, ∀ x ∈ p.2, x.length = cfg.idSize.toNat) → ids.length ≤ cfg.s.toNat →
          (∀ g, SSE1.piBytes cfg lv K3 w = .ok g → ∀ b, Draw.bytes b ∈ t → b ≠ g) →
           ∃ tk, SSE1.token cfg lv [K1, K2, K3, K4] w = .ok tk ∧ SSE1.search cfg lv edb tk = .ok ids)) :=
  refused_or_loud_or _ _ _ fun cfg edb t' hc hs h2 hl8 hk hidl hsz hfresh =>
    C01.SSE1.search_stored_valid raw cfg hc lv hl h2 hl8 K1 K2 K3 K4 db t t' edb hs hk hidl hkeys hvalid w ids hm hsz
      hfresh

/-- DP17: under the hypotheses of `C01.DP17.search_stored`, the trial-decryption hypothesis `ProbesClean` among them -/
theorem DP17.refused_or_correct (raw : RawCfg) (lv : Leaves) (hl : LeafLaws lv) (k1 k2 k3 : Bytes) (db : DB) (t : Tape)
    (hkeys : (db.map (·.1)).Nodup) (hperm : DP17.PermsGood t) (w : Bytes) (ids : List Bytes) (hm : (w, ids) ∈ db) :
    (∃ e, DP17.cfgBuild raw = .error e) ∨
    ∃ cfg, DP17.cfgBuild raw = .ok cfg ∧
      ((∃ e, DP17.setup cfg lv [k1, k2, k3] db t = .error e) ∨
       ∃ edb t', DP17.setup cfg lv [k1, k2, k3] db t = .ok (edb, t') ∧
         ((∀ p ∈ db, ∀ id ∈ p.2, (id.length : Int) = cfg.idSize) →
          (∀ levels, DP17.levelsOf cfg db.total = .ok levels → DP17.KeyInj cfg lv k1 levels db) →
          (∀ levels, DP17.levelsOf cfg db.total = .ok levels → ∀ b, Draw.bytes b ∈ t → ∀ w ids c, (w, ids) ∈ db → 1 ≤ c →
            c ≤ DP17.nChunks cfg levels ids → DP17.htKey cfg lv k1 w c ≠ .ok b) →
          ∀ tag vtag etag, DP17.token cfg lv [k1, k2, k3] w = .ok [tag, vtag, etag] →
            DP17.ProbesClean cfg lv edb tag vtag etag ids →
            (∀ levels, DP17.levelsOf cfg db.total = .ok levels → ∀ c, DP17.nChunks cfg levels ids < c → c ≤ cfg.L.toNat →
              ∃ key, DP17.hashH cfg lv (tag ++ natToBytesMin c) = .ok key ∧ edb.HT.get key = none) →
            ∃ res, DP17.search cfg lv edb [tag, vtag, etag] = .ok res ∧ ∀ id, id ∈ res ↔ id ∈ ids)) :=
  refused_or_loud_or _ _ _ fun cfg edb t' hc hs hidl hinj hfresh tag vtag etag htk hclean hbeyond =>
    C01.DP17.search_stored raw cfg hc lv hl k1 k2 k3 db t t' edb hs hkeys hidl hinj hperm hfresh w ids hm tag vtag etag htk
      hclean hbeyond

/-! The lists are the source's lists.  `Generated/ConfigFacts.lean` (regenerated from `schemes/*/*/config.py` on every run)
  holds, per scheme, the list literal `_parse_config` hands to `check_param_exist` (`required`), every
  key it reads from the configuration dictionary (`reads`) and whether the existence check is its first statement.  The Lean
  builders check exactly the source's lists, as sets (`required_lists_are_source`); every field a builder reads is one it
  requires, and the existence check comes first in every `_parse_config` (`reads_are_required`; SSE-2 reads two primitive
  names it does not list: a missing name falls through to the primitive look-up on the empty string, which refuses it —
  also while the configuration is built: `SSE2.missing_primitive_refused`).  A field dropped from a check list, or a new
  field read without being required, changes the generated file and these theorems stop checking. -/

def sameFields (a b : List String) : Bool := a.all (fun f => b.contains f) && b.all (fun f => a.contains f)

theorem Lacks.of_sameFields {a b : List String} (h : sameFields a b = true) {raw : RawCfg} (hl : Lacks a raw) : Lacks b raw := by
  obtain ⟨f, hf, hm⟩ := hl
  simp only [sameFields, Bool.and_eq_true, List.all_eq_true] at h
  have hfb : f ∈ b := by simpa using h.1 f hf
  exact ⟨f, hfb, hm⟩

open SSEPy.Generated.Config in
theorem required_lists_are_source :
    sameFields PiBas_required ["param_lambda", "prf_f_output_length", "prf_f", "ske"] = true ∧
    sameFields PiPack_required ["param_lambda", "param_B", "prf_f_output_length", "param_identifier_size", "prf_f", "ske"] = true ∧
    sameFields PiPtr_required ["param_lambda", "param_B", "param_b", "prf_f_output_length", "param_identifier_size", "prf_f", "ske"] = true ∧
    sameFields Pi2Lev_required ["param_lambda", "param_B", "param_b", "param_B_prime", "param_b_prime", "prf_f_output_length",
                       "param_identifier_size", "prf_f", "ske"] = true ∧
    sameFields CT14_required ["param_k", "param_k_prime", "param_l", "param_identifier_size", "prf_f", "prf_f_prime", "ske"] = true ∧
    sameFields ANSS16_required ["param_lambda", "param_k", "param_k_prime", "param_l", "param_l_prime", "param_identifier_size", "prf", "ske"] = true ∧
    sameFields SSE1_required ["param_k", "param_l", "param_s", "param_dictionary_size", "param_identifier_size",
                     "prp_pi", "prp_psi", "prf_f", "ske1", "ske2"] = true ∧
    sameFields SSE2_required ["param_k", "param_l", "param_n", "param_max_file_size"] = true ∧
    sameFields DP17_required ["param_lambda", "param_actual_storage_level_ratio", "param_L", "param_identifier_size", "rnd", "prf_f", "hash_h"] = true := by
  decide +kernel

open SSEPy.Generated.Config in
theorem missing_required_param_refused (raw : RawCfg) :
    (Lacks PiBas_required raw → PiBas.cfgBuild raw = .error .valueError) ∧
    (Lacks PiPack_required raw → PiPack.cfgBuild raw = .error .valueError) ∧
    (Lacks PiPtr_required raw → PiPtr.cfgBuild raw = .error .valueError) ∧
    (Lacks Pi2Lev_required raw → Pi2Lev.cfgBuild raw = .error .valueError) ∧
    (Lacks CT14_required raw → CT14.cfgBuild raw = .error .valueError) ∧
    (Lacks ANSS16_required raw → ANSS16.cfgBuild raw = .error .valueError) ∧
    (Lacks SSE1_required raw → SSE1.cfgBuild raw = .error .valueError) ∧
    (Lacks SSE2_required raw → SSE2.cfgBuild raw = .error .valueError) ∧
    (Lacks DP17_required raw → DP17.cfgBuild raw = .error .valueError) := by
  obtain ⟨h1, h2, h3, h4, h5, h6, h7, h8, h9⟩ := required_lists_are_source
  exact ⟨fun h => missing_param_refused_PiBas raw (Lacks.of_sameFields h1 h),
    fun h => missing_param_refused_PiPack raw (Lacks.of_sameFields h2 h),
    fun h => missing_param_refused_PiPtr raw (Lacks.of_sameFields h3 h),
    fun h => missing_param_refused_Pi2Lev raw (Lacks.of_sameFields h4 h),
    fun h => missing_param_refused_CT14 raw (Lacks.of_sameFields h5 h),
    fun h => missing_param_refused_ANSS16 raw (Lacks.of_sameFields h6 h),
    fun h => missing_param_refused_SSE1 raw (Lacks.of_sameFields h7 h),
    fun h => missing_param_refused_SSE2 raw (Lacks.of_sameFields h8 h),
    fun h => missing_param_refused_DP17 raw (Lacks.of_sameFields h9 h)⟩

open SSEPy.Generated.Config in
theorem reads_are_required :
    (∀ f ∈ PiBas_reads, f ∈ PiBas_required) ∧ (∀ f ∈ PiPack_reads, f ∈ PiPack_required) ∧
    (∀ f ∈ PiPtr_reads, f ∈ PiPtr_required) ∧ (∀ f ∈ Pi2Lev_reads, f ∈ Pi2Lev_required) ∧
    (∀ f ∈ CT14_reads, f ∈ CT14_required) ∧ (∀ f ∈ ANSS16_reads, f ∈ ANSS16_required) ∧
    (∀ f ∈ SSE1_reads, f ∈ SSE1_required) ∧ (∀ f ∈ DP17_reads, f ∈ DP17_required) ∧
    (∀ f ∈ SSE2_reads, f ∈ SSE2_required ∨ f = "prp_pi" ∨ f = "ske") ∧
    (PiBas_checked_first && PiPack_checked_first && PiPtr_checked_first && Pi2Lev_checked_first && CT14_checked_first &&
     ANSS16_checked_first && SSE1_checked_first && SSE2_checked_first && DP17_checked_first) = true := by
  decide +kernel

theorem SSE2.missing_primitive_refused (raw : RawCfg) (h : raw.get "prp_pi" = none ∨ raw.get "ske" = none) :
    ∃ e, SSE2.cfgBuild raw = .error e := by
  cases hc : SSE2.cfgBuild raw with
  | error e => exact ⟨e, rfl⟩
  | ok cfg =>
    obtain ⟨_, p⟩ := SSE2.cfgBuild_inv cfg raw hc
    -- the builder checked the two primitive names; an absent name reads as "", which is neither a bit PRP nor AES-CBC
    rcases h with h | h
    · have hprp : checkBitPrp (getName raw "prp_pi") = .ok () := p.piName
      rw [getName, h] at hprp
      exact absurd hprp (by decide +kernel)
    · have hske : isAesCbcName (getName raw "ske") = true := p.skeName
      rw [getName, h] at hske
      exact absurd hske (by decide +kernel)

end SSEPy.C08
