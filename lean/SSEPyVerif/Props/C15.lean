/-
  C15 — Pseudo-random permutations are length-preserving bijections with inverses.
  Every statement holds for an arbitrary keyed digest (`hmac`) of fixed positive length: bijectivity of
  the Feistel constructions does not depend on any cryptographic assumption.
-/
import SSEPyVerif.Proofs.Feistel
namespace SSEPy.C15
open Bitset

variable (hmac : Hmac) (dB : Nat)

/-- the expansion loop of the round function terminates and delivers exactly the requested number of
    bits (the right half's length when 0 is requested), well-formed -/
theorem round_len (hlen : ∀ k m, (hmac k m).length = dB) (hdB : 0 < dB)
    (key : Bytes) (i : Nat) (s : Bitset) (L : Nat) :
    ∃ g, ffxRound hmac dB key i s L = .ok g ∧ g.WF ∧ g.length = (if L = 0 then s.length else L) :=
  SSEPy.round_len hmac dB hlen hdB key i s L

/-- for every key, every n ≥ 2 and every even round count (or even n): encryption maps n-bit strings to
    n-bit strings and decryption inverts it -/
theorem ffx_dec_enc (hlen : ∀ k m, (hmac k m).length = dB) (hdB : 0 < dB) (key : Bytes) (rounds : Nat)
    (v : Bitset) (hv : v.WF) (hn : 2 ≤ v.length) (hpar : rounds % 2 = 0 ∨ v.length % 2 = 0) :
    ∃ w, ffxEncrypt (ffxRound hmac dB key) rounds v = .ok w ∧ w.WF ∧ w.length = v.length ∧
      ffxDecrypt (ffxRound hmac dB key) rounds w = .ok v :=
  ((ffxRound_total hmac dB hlen hdB key).inverse rounds v hv hn hpar).1

/-- under the same conditions encryption inverts decryption: every n-bit string is a ciphertext -/
theorem ffx_enc_dec (hlen : ∀ k m, (hmac k m).length = dB) (hdB : 0 < dB) (key : Bytes) (rounds : Nat)
    (v : Bitset) (hv : v.WF) (hn : 2 ≤ v.length) (hpar : rounds % 2 = 0 ∨ v.length % 2 = 0) :
    ∃ w, ffxDecrypt (ffxRound hmac dB key) rounds v = .ok w ∧ w.WF ∧ w.length = v.length ∧
      ffxEncrypt (ffxRound hmac dB key) rounds w = .ok v :=
  ((ffxRound_total hmac dB hlen hdB key).inverse rounds v hv hn hpar).2

/-- two strings of one length (`hl`) with the same encryption are equal: decryption maps it back to both -/
theorem ffx_injective (hlen : ∀ k m, (hmac k m).length = dB) (hdB : 0 < dB) (key : Bytes) (rounds : Nat)
    (v v' : Bitset) (hv : v.WF) (hv' : v'.WF) (hn : 2 ≤ v.length) (hl : v'.length = v.length)
    (hpar : rounds % 2 = 0 ∨ v.length % 2 = 0)
    (h : ffxEncrypt (ffxRound hmac dB key) rounds v = ffxEncrypt (ffxRound hmac dB key) rounds v') : v = v' := by
  obtain ⟨w, hw, _, _, hd⟩ := ffx_dec_enc hmac dB hlen hdB key rounds v hv hn hpar
  have hn' : 2 ≤ v'.length := by omega
  have hpar' : rounds % 2 = 0 ∨ v'.length % 2 = 0 := by rw [hl]; exact hpar
  obtain ⟨w', hw', _, _, hd'⟩ := ffx_dec_enc hmac dB hlen hdB key rounds v' hv' hn' hpar'
  rw [hw, hw'] at h
  cases h
  rw [hd] at hd'
  exact Except.ok.inj hd'

/-- every well-formed n-bit string is the encryption of its decryption -/
theorem ffx_surjective (hlen : ∀ k m, (hmac k m).length = dB) (hdB : 0 < dB) (key : Bytes) (rounds : Nat)
    (y : Bitset) (hy : y.WF) (hn : 2 ≤ y.length) (hpar : rounds % 2 = 0 ∨ y.length % 2 = 0) :
    ∃ x, x.WF ∧ x.length = y.length ∧ ffxEncrypt (ffxRound hmac dB key) rounds x = .ok y := by
  obtain ⟨x, _, hxw, hxl, hx⟩ := ffx_enc_dec hmac dB hlen hdB key rounds y hy hn hpar
  exact ⟨x, hxw, hxl, hx⟩

/-- the bit PRP refuses a wrong key or message bit length -/
theorem bit_prp_contracts (msgBits keyBits : Int) (key msg : Bitset) :
    ((key.length : Int) ≠ keyBits → bitwiseFpePrp hmac dB msgBits keyBits key msg = .error .valueError) ∧
    ((key.length : Int) = keyBits → (msg.length : Int) ≠ msgBits →
        bitwiseFpePrp hmac dB msgBits keyBits key msg = .error .valueError) := by
  unfold bitwiseFpePrp
  constructor
  · intro h
    rw [if_pos (bne_iff_ne.mpr h), throw_eq, error_bind]
  · intro h1 h2
    have hkey : ¬ ((key.length : Int) != keyBits) = true := fun c => bne_iff_ne.mp c h1
    rw [if_neg hkey, if_pos (bne_iff_ne.mpr h2), throw_eq, error_bind]

/-- On the declared lengths the bit PRP returns a string that the FFX decryption with the default (even) round
    count under the key's bytes maps back to the message.  (That the string is the FFX encryption is how the proof
    goes; the statement does not say it.) -/
theorem bit_prp_is_ffx (hlen : ∀ k m, (hmac k m).length = dB) (hdB : 0 < dB)
    (key msg : Bitset) (hk : key.WF) (hm : msg.WF) (hn : 2 ≤ msg.length) :
    ∃ kb w, key.toBytes = .ok kb ∧
      bitwiseFpePrp hmac dB msg.length key.length key msg = .ok w ∧ w.WF ∧ w.length = msg.length ∧
      ffxDecrypt (ffxRound hmac dB kb) DEFAULT_ROUNDS w = .ok msg := by
  have hkb := toBytes_eq key hk
  obtain ⟨w, hw, hww, hwl, hd⟩ := ffx_dec_enc hmac dB hlen hdB _ DEFAULT_ROUNDS msg hm hn (Or.inl rfl)
  refine ⟨_, w, hkb, ?_, hww, hwl, hd⟩
  unfold bitwiseFpePrp
  simp [hkb, hw, ok_bind]

/-- Luby–Rackoff (3 Feistel rounds on byte halves) is injective for any underlying function -/
theorem lr_injective (p : LubyRackoff) (key m m' c : Bytes)
    (h : p.call key m = .ok c) (h' : p.call key m' = .ok c) : m = m' := by
  obtain ⟨_, hm, _, h⟩ := LubyRackoff.call_eq_ok.1 h
  obtain ⟨_, hm', _, h'⟩ := LubyRackoff.call_eq_ok.1 h'
  obtain ⟨s3, hs, rfl⟩ := lrCore_eq_ok.1 h
  obtain ⟨s3', hs', hc'⟩ := lrCore_eq_ok.1 h'
  have hlen : m'.length = m.length := Int.ofNat.inj (hm'.trans hm.symm)
  -- both messages have the declared length, so the two outputs split at the same place; then `lr3_inj`
  have hl : s3'.1.length = s3.1.length := by
    rw [(lr3_length hs).1, (lr3_length hs').1, List.length_drop, List.length_drop, hlen]
  have e := List.append_inj hc' hl
  obtain rfl : s3' = s3 := Prod.ext e.1 e.2
  have e0 := congrArg (fun q : Bytes × Bytes => q.1 ++ q.2) (lr3_inj hs hs')
  simpa only [List.take_append_drop] using e0

/-- `LubyRackoffPRP.__call__` returns as many bytes as the message has -/
theorem lr_len (p : LubyRackoff) (key m c : Bytes) (h : p.call key m = .ok c) : c.length = m.length := by
  obtain ⟨_, _, _, h⟩ := LubyRackoff.call_eq_ok.1 h
  obtain ⟨s3, hs, rfl⟩ := lrCore_eq_ok.1 h
  have l3 := lr3_length hs
  rw [List.length_append, l3.1, l3.2, Nat.add_comm, ← List.length_append, List.take_append_drop]

/-- `LubyRackoffPRP.__call__` refuses a key or a message of another length than declared with ValueError -/
theorem lr_contracts (p : LubyRackoff) (key m : Bytes) :
    ((key.length : Int) ≠ p.keyLength → p.call key m = .error .valueError) ∧
    ((key.length : Int) = p.keyLength → (m.length : Int) ≠ p.messageLength → p.call key m = .error .valueError) := by
  unfold LubyRackoff.call
  constructor
  · intro h
    rw [if_pos (bne_iff_ne.mpr h)]
  · intro h1 h2
    have hkey : ¬ ((key.length : Int) != p.keyLength) = true := fun c => bne_iff_ne.mp c h1
    rw [if_neg hkey, if_pos (bne_iff_ne.mpr h2)]

/-- odd message lengths and key lengths not divisible by 3 are refused at construction -/
theorem lr_ctor_contracts (hashLen : Nat) (ml kl : Int) :
    (ml % 2 ≠ 0 → hmacLubyRackoffNew hmac hashLen ml kl = .error .valueError) ∧
    (ml % 2 = 0 → kl % 3 ≠ 0 → hmacLubyRackoffNew hmac hashLen ml kl = .error .valueError) := by
  unfold hmacLubyRackoffNew
  -- the model writes Python's `%` as `Int.emod`, which is what `%` on `Int` unfolds to
  constructor
  · intro (h : Int.emod ml 2 ≠ 0)
    rw [if_pos (bne_iff_ne.mpr h)]
  · intro (h1 : Int.emod ml 2 = 0) (h2 : Int.emod kl 3 ≠ 0)
    have hpar : ¬ (Int.emod ml 2 != 0) = true := fun c => bne_iff_ne.mp c h1
    rw [if_neg hpar, if_pos (bne_iff_ne.mpr h2)]

/-! Non-vacuity: a toy digest of 2 bytes; a concrete 5-bit encryption computes and inverts. -/
def toyHmac : Hmac := fun k m => [UInt8.ofNat (k.length + 3 * m.length + m.foldl (fun a b => a + b.toNat) 0), 0xa5]
example : ∀ k m, (toyHmac k m).length = 2 := fun _ _ => rfl
example : (ffxEncrypt (ffxRound toyHmac 2 [1, 2]) 10 ⟨0b10110, 5⟩).toOption.map (·.length) = some 5 := by decide +kernel
example : (do let w ← ffxEncrypt (ffxRound toyHmac 2 [1, 2]) 10 ⟨0b10110, 5⟩; ffxDecrypt (ffxRound toyHmac 2 [1, 2]) 10 w)
    = .ok ⟨0b10110, 5⟩ := by decide +kernel

end SSEPy.C15
