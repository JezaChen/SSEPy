/-
  C11 — Client workflow: steps out of order are refused and the key is write-once.

  `Generated.clientProgram` is what the translator extracted from frontend/client/**; `runCmd` is the interpreter (one user
  command = a `Service` object freshly loaded from disk, one handler, `close_service()` for the network commands; the
  server is the 3-state reference machine that the real server refines, C10).  The theorems about `runCmd` hold in every
  world some history of commands reaches (`Reach`: no depth bound, all configurations, all key ids).  A `World` holds one
  service folder: `.create` in a world that has a service is `create_service` from the configuration that carries this
  service's salt (same sid, `mkdir` fails); from a fresh configuration Python makes a second service (new salt, new sid),
  which no `World` describes.  The last section is about the command layer (commands.py, service_name_handler.py;
  Model/Commands.lean), a model of its own.
-/
import SSEPyVerif.Proofs.Client
import SSEPyVerif.Model.Commands
namespace SSEPy.C11
open SSEPy.ClientIR SSEPy.ServerIR

/-- the tie to the source: the extracted program is the one `runCmd_world` evaluates -/
theorem program_is_expected : SSEPy.Generated.clientProgram = expectedClient := rfl

/-- the reference model: one command on the five flags of frontend/README.md; the Boolean says whether the command is
    accepted.  Two prerequisites are no guard of a handler but a file: a second `create` (see the header) fails in `mkdir`,
    an index upload without `encrypted` in `loadEdbFile`; in `Reach` worlds file and flag agree -/
def refStep (b : Bits) : Cmd → Bits × Bool
  | .create _ v => if !b.created && v then ({ b with created := true }, true) else (b, false)
  | .key => if b.created && !b.key then ({ b with key := true }, true) else (b, false)
  | .encrypt => if b.created && b.key && !b.encrypted then ({ b with encrypted := true }, true) else (b, false)
  | .uploadConfig => if b.created && !b.uploaded then ({ b with uploaded := true }, true) else (b, false)
  | .uploadEdb =>
    if b.uploaded && b.key && b.encrypted && !b.dbUploaded then ({ b with dbUploaded := true }, true) else (b, false)
  | .search => (b, b.dbUploaded)

/-- the persisted flag word of a world (all clear when there is no service) -/
def flags (w : World) : Bits := match w.cdisk.metaSt with | .full b => b | _ => {}

/-- what the reference server keeps across connections: state, configuration, index -/
def srvDurable (w : World) : Nat × Option Cfg × Option Nat := (w.server.st, w.server.cfg, w.server.edb)

/-- the worlds some history of user commands reaches from nothing (no client folder, fresh server) -/
def Reach (w : World) : Prop := ∃ cmds, w = (runCmds SSEPy.Generated.clientProgram {} cmds).1

theorem reach_abstract {w : World} (h : Reach w) : ∃ a : AS, w = a.world := by
  obtain ⟨cmds, rfl⟩ := h
  rw [program_is_expected, world_init, runCmds_world]
  exact ⟨_, rfl⟩

theorem reach_step {w : World} (h : Reach w) (cmd : Cmd) : Reach (runCmd SSEPy.Generated.clientProgram w cmd).1 := by
  obtain ⟨cmds, rfl⟩ := h
  refine ⟨cmds ++ [cmd], ?_⟩
  rw [runCmds_append]
  rfl

/-- a command is accepted exactly when the five-flag reference accepts it, and the persisted flag word afterwards is the
    reference's -/
theorem accepted_ops_follow_reference {w : World} (h : Reach w) (cmd : Cmd) :
    let r := runCmd SSEPy.Generated.clientProgram w cmd
    (decide (r.2 ≠ .refused)) = (refStep (flags w) cmd).2 ∧ flags r.1 = (refStep (flags w) cmd).1 := by
  obtain ⟨a, rfl⟩ := reach_abstract h
  rw [program_is_expected, runCmd_world]
  cases a with
  | fresh alive n => cases cmd with
    | create c v => cases v <;> exact ⟨rfl, rfl⟩
    | _ => exact ⟨rfl, rfl⟩
  | mid c ks up alive n =>
    cases cmd with
    | create c' v | search => exact ⟨rfl, rfl⟩
    | key | encrypt => cases ks <;> exact ⟨rfl, rfl⟩
    | uploadConfig => cases up <;> exact ⟨rfl, rfl⟩
    | uploadEdb => cases ks <;> cases up <;> exact ⟨rfl, rfl⟩
  | done c k n => cases cmd <;> exact ⟨rfl, rfl⟩

/-- a refused command changes nothing: the client's folder (configuration, flags, key, local index) and the durable
    state of the server are exactly what they were -/
theorem refused_is_noop {w : World} (h : Reach w) (cmd : Cmd)
    (hr : (runCmd SSEPy.Generated.clientProgram w cmd).2 = .refused) :
    (runCmd SSEPy.Generated.clientProgram w cmd).1.cdisk = w.cdisk ∧
    srvDurable (runCmd SSEPy.Generated.clientProgram w cmd).1 = srvDurable w := by
  obtain ⟨a, rfl⟩ := reach_abstract h
  rw [program_is_expected, runCmd_world] at hr ⊢
  cases a with
  | fresh alive n => cases cmd with
    | create c v => cases v <;> cases hr <;> exact ⟨rfl, rfl⟩
    | _ => cases hr <;> exact ⟨rfl, rfl⟩
  | mid c ks up alive n =>
    cases cmd with
    | create c' v => exact ⟨rfl, rfl⟩
    | key | encrypt => cases ks <;> cases hr <;> exact ⟨rfl, rfl⟩
    | uploadConfig | search => cases up <;> cases hr <;> exact ⟨rfl, rfl⟩
    | uploadEdb => cases ks <;> cases up <;> cases hr <;> exact ⟨rfl, rfl⟩
  | done c k n => cases cmd <;> cases hr <;> exact ⟨rfl, rfl⟩

/-- an operation whose prerequisites are not met, or which would redo a completed step, is refused -/
theorem unmet_prerequisite_refused {w : World} (h : Reach w) (cmd : Cmd)
    (hp : (refStep (flags w) cmd).2 = false) :
    (runCmd SSEPy.Generated.clientProgram w cmd).2 = .refused := by
  have := (accepted_ops_follow_reference h cmd).1
  rw [hp] at this
  simpa using this

/-- the key is write-once: once a key file exists no command — accepted or refused — changes it -/
theorem key_write_once {w : World} (h : Reach w) (cmd : Cmd) (k : Nat) (hk : w.cdisk.key = .full k) :
    (runCmd SSEPy.Generated.clientProgram w cmd).1.cdisk.key = .full k := by
  obtain ⟨a, rfl⟩ := reach_abstract h
  rw [program_is_expected, runCmd_world]
  cases a with
  | fresh alive n => cases hk
  | mid c ks up alive n =>
    cases cmd with
    | create c' v | search => exact hk
    | uploadConfig => cases up <;> exact hk
    | key | encrypt =>
      cases ks with
      | none => cases hk                 -- there is no key file yet
      | key _ | enc _ => exact hk
    | uploadEdb => cases ks <;> cases up <;> exact hk
  | done c k' n => cases cmd <;> exact hk

/-- the same over whole histories: a key file that is there after `cmds` is there unchanged after any further `more` -/
theorem key_never_changes (cmds more : List Cmd) (k : Nat)
    (hk : (runCmds SSEPy.Generated.clientProgram {} cmds).1.cdisk.key = .full k) :
    (runCmds SSEPy.Generated.clientProgram (runCmds SSEPy.Generated.clientProgram {} cmds).1 more).1.cdisk.key = .full k := by
  have hr : Reach (runCmds SSEPy.Generated.clientProgram {} cmds).1 := ⟨cmds, rfl⟩
  generalize (runCmds SSEPy.Generated.clientProgram {} cmds).1 = w at hr hk
  induction more generalizing w with
  | nil => exact hk
  | cons c cs ih => simp only [runCmds]; exact ih _ (reach_step hr c) (key_write_once hr c k hk)

/-- an uploaded index remains searchable: when the flags say the index is uploaded, a search is answered, by the index built
    under the key that is on disk, with a token of that same key (= a correct result) -/
theorem uploaded_index_searchable {w : World} (h : Reach w) (hd : (flags w).dbUploaded = true) :
    ∃ k, w.cdisk.key = .full k ∧ (runCmd SSEPy.Generated.clientProgram w .search).2 = .result k k := by
  obtain ⟨a, rfl⟩ := reach_abstract h
  rw [program_is_expected, runCmd_world]
  cases a with
  | fresh alive n => cases hd
  | mid c ks up alive n => cases hd
  | done c k n => exact ⟨k, rfl, rfl⟩

/-- the flag `dbUploaded`, once stored, stays set through any further commands (this is about the flag alone) -/
theorem searchable_forever {w : World} (h : Reach w) (hd : (flags w).dbUploaded = true) (more : List Cmd) :
    (flags (runCmds SSEPy.Generated.clientProgram w more).1).dbUploaded = true := by
  -- the flag is set only in `done`, and `done` is never left
  obtain ⟨a, rfl⟩ := reach_abstract h
  rw [program_is_expected, runCmds_world]
  cases a with
  | fresh alive n => cases hd
  | mid c ks up alive n => cases hd
  | done c k n => rw [AS.run_done]; rfl

/-- an invalid configuration does not create a service: nothing at all changes -/
theorem invalid_config_creates_nothing {w : World} (h : Reach w) (c : Cfg) :
    runCmd SSEPy.Generated.clientProgram w (.create c false) = (w, .refused) := by
  obtain ⟨a, rfl⟩ := reach_abstract h
  rw [program_is_expected, runCmd_world]
  cases a with
  | fresh alive n => rfl
  | mid c ks up alive n => rfl
  | done c k n => rfl

/-- no history of commands from the empty world delivers a result whose index and token come from different keys -/
theorem no_wrong_result (cmds : List Cmd) (e k : Nat)
    (hm : COut.result e k ∈ (runCmds SSEPy.Generated.clientProgram {} cmds).2) : e = k := by
  rw [program_is_expected, world_init, runCmds_world] at hm
  exact AS.run_result _ cmds e k hm

/-- non-vacuity: the documented workflow is accepted step by step and its search is answered -/
theorem happy_path :
    (runCmds SSEPy.Generated.clientProgram {} [.create 5 true, .key, .encrypt, .uploadConfig, .uploadEdb, .search]).2
      = [.ok, .ok, .ok, .ok, .ok, .result 1 1] := by decide +kernel

/-- non-vacuity: a step issued before its prerequisites, or a second time, is refused -/
theorem out_of_order_example :
    (runCmds SSEPy.Generated.clientProgram {} [.key, .create 5 false, .create 5 true, .encrypt, .uploadEdb, .key, .key,
       .create 5 true, .search]).2
      = [.refused, .refused, .ok, .refused, .refused, .ok, .refused, .refused, .refused] := by decide +kernel

open SSEPy.Cmd in
/-- a refused `create_service` (name taken, or a configuration the scheme cannot be instantiated with) changes nothing:
    no service folder, no mapping entry -/
theorem create_refused_unchanged (w : Cmd.World) (cfgOk : Bool) (name sid : String)
    (h : (create w cfgOk name sid).2 = false) : (create w cfgOk name sid).1 = w := by
  unfold create at h ⊢
  split
  · rfl
  · split
    · rfl
    · rename_i h1 h2; simp [h1, h2] at h

open SSEPy.Cmd in
/-- an accepted `create_service` makes the name resolve to the new service -/
theorem create_accepted_resolves (w : Cmd.World) (cfgOk : Bool) (name sid : String)
    (h : (create w cfgOk name sid).2 = true) : resolve (create w cfgOk name sid).1 name = some sid := by
  unfold create at h ⊢
  split
  · rename_i h1; simp [h1] at h
  · split
    · rename_i h1 h2; simp [h1, h2] at h
    · rename_i h1 _
      simp [resolve, List.lookup_append, Option.not_isSome_iff_eq_none.mp h1]

open SSEPy.Cmd in
/-- one `create_service`, whatever its name and outcome, never changes what an already resolvable name points to: names
    are write-once, and compared as exact strings -/
theorem create_keeps_names (w : Cmd.World) (cfgOk : Bool) (name sid n s : String) (h : resolve w n = some s) :
    resolve (create w cfgOk name sid).1 n = some s := by
  unfold create
  split
  · exact h
  · split
    · exact h
    · simp only [resolve] at h ⊢
      rw [List.lookup_append, h]; rfl

open SSEPy.Cmd in
/-- over any history of create commands a name keeps pointing to the service it was first given to (`Cmd.run` has
    create commands only: in commands.py no other command writes the mapping) -/
theorem name_write_once (w : Cmd.World) (n s : String) (h : resolve w n = some s)
    (cmds : List (Bool × String × String)) : resolve (run w cmds) n = some s := by
  induction cmds generalizing w with
  | nil => exact h
  | cons c rest ih =>
    obtain ⟨c1, c2, c3⟩ := c
    exact ih _ (create_keeps_names w c1 c2 c3 n s h)

open SSEPy.Cmd in
/-- non-vacuity: a second create under a taken name is refused and leaves the world as it was; a name that differs by a
    trailing blank is another name -/
theorem names_example :
    let w1 := (create {} true "alice" "sid1").1
    (create w1 true "alice" "sid2") = (w1, false) ∧ (create w1 true "alice " "sid2").2 = true ∧
    resolve (create w1 true "alice " "sid2").1 "alice" = some "sid1" := by decide

end SSEPy.C11
