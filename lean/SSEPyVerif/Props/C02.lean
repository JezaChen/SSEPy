/-
  C02 — Searching a keyword that is not in the database returns an empty result.

  `S.search_absent_empty`, for each scheme: when none of the labels the search probes for is stored, the search completes
  normally with the empty result.  For PiPtr, ANSS16, CT14, SSE-1, Pi2Lev and DP17 the statement is about any index and
  any token: it mentions neither `setup` nor a database, and "the keyword is absent" enters only as the reason why the
  hypothesis holds (of every keyword outside the database unless the PRF collides: prefixes, suffixes and near-duplicates
  of stored keywords are just other inputs of the PRF; no theorem says so).  `Chain.` and `SSE2.search_absent_empty` put
  the hypothesis against what `setup` stored for the given database; `SSE2.absent_correct` alone starts from a keyword
  that is not in the database, and derives the hypothesis from the PRP being injective (C15).
-/
import SSEPyVerif.Proofs.Schemes.PiPtr
import SSEPyVerif.Proofs.Schemes.ANSS16
import SSEPyVerif.Proofs.Schemes.CT14
import SSEPyVerif.Proofs.Schemes.SSE1
import SSEPyVerif.Proofs.Schemes.Pi2Lev
import SSEPyVerif.Proofs.Schemes.DP17Search
import SSEPyVerif.Proofs.Schemes.SSE2Complete
namespace SSEPy.C02
open SSEPy.Sch SSEPy.Sch.Chain

/-- PiBas and PiPack: a keyword whose first chain label `F(K1, 0)` is not among the labels `encDb` stored in this run gets
    the empty result on the dictionary `EDBSetup` returned -/
theorem Chain.search_absent_empty (cfg : ChainCfg) (lv : Leaves) (K : Bytes) (db : DB) (t t' : Tape) (D : Table)
    (hs : Chain.setup cfg lv K db t = .ok (D, t')) (w : Bytes) (K1 K2 l0 : Bytes)
    (htk : Chain.token cfg lv K w = .ok (K1, K2))
    (h0 : cfg.prfF.call lv.hmac K1 (natToBytesMin 0) = .ok l0)
    (hfresh : ∀ L, encDb cfg lv K db t = .ok (L, t') → l0 ∉ L.map (·.1)) :
    Chain.search cfg lv D (K1, K2) = .ok [] := by
  obtain ⟨L, hL, rfl⟩ := setup_inv cfg lv hs
  have hmiss : (buildTable L).get l0 = none := buildTable_get_none L l0 (hfresh L hL)
  rw [search, searchFuel]
  exact searchLoop_miss cfg lv _ K2 h0 hmiss _ []

/-- PiPtr: a token whose first probe label `F(K1, 0)` is not in the dictionary gets the empty result (no pointer is read,
    the array is not touched) -/
theorem PiPtr.search_absent_empty (cfg : PiPtrCfg) (lv : Leaves) (edb : PiPtrEDB) (K1 K2 l0 : Bytes)
    (h0 : cfg.prfF.call lv.hmac K1 (natToBytesMin 0) = .ok l0) (hmiss : edb.D.get l0 = none) :
    PiPtr.search cfg lv edb (K1, K2) = .ok [] := by
  have h0c : cfg.chain.prfF.call lv.hmac K1 (natToBytesMin 0) = .ok l0 := by rwa [PiPtrCfg.chain_prfF]
  have hloop : PiPtr.ptrLoop cfg lv edb.D K1 K2 (edb.D.length + 1) 0 [] = .ok [] := by
    rw [PiPtr.ptrLoop, searchLoop_miss cfg.chain lv edb.D K2 h0c hmiss]
  rw [PiPtr.search, hloop, ok_bind, PiPtr.fetch]

/-- ANSS16: a token whose HT(S) label is not stored gets the empty result -/
theorem ANSS16.search_absent_empty (cfg : ANSSCfg) (lv : Leaves) (edb : ANSSEDB) (tk : ANSSToken)
    (hmiss : edb.HTS.get tk.liP = none) : ANSS16.search cfg lv edb tk = .ok [] := by
  simp only [ANSS16.search, hmiss]

/-- CT14: a token none of whose level labels `F'(K0, j)` is stored at its level gets the empty result -/
theorem CT14.search_absent_empty (cfg : CT14Cfg) (lv : Leaves) (HT : List Table) (K0 K1 : Bytes)
    (hfresh : ∀ j, j < HT.length → ∃ l, cfg.prfFPrime.call lv.hmac K0 (natToBytesMin j) = .ok l ∧
      (HT[j]?).bind (·.get l) = none) :
    CT14.search cfg lv HT (K0, K1) = .ok [] := by
  unfold CT14.search
  -- the level scan finds what it finds for the empty list, which has no bit set
  have hnobit : ∀ j, ¬ 2 ^ j ≤ ([] : List Bytes).length % 2 ^ (j + 1) := fun j => Nat.not_le.mpr (Nat.two_pow_pos j)
  rw [CT14.searchLevels_scan K0 K1 HT [] HT.length (fun j _ hb => absurd hb (hnobit j)) (fun j hj _ => hfresh j hj)]
  exact congrArg Except.ok (CT14.scan_all [] HT.length (Nat.two_pow_pos _))

/-- SSE-1: a token whose table label is not in the look-up table gets the empty result -/
theorem SSE1.search_absent_empty (cfg : SSE1Cfg) (lv : Leaves) (edb : SSE1EDB) (gamma eta : Bytes)
    (hmiss : edb.T.get gamma = none) : SSE1.search cfg lv edb (gamma, eta) = .ok [] := by
  rw [SSE1.search, hmiss]

/-- Pi2Lev: a token whose dictionary label is not stored gets the empty result, not a KeyError (/repo commit b9f206a) -/
theorem Pi2Lev.search_absent_empty (cfg : Pi2LevCfg) (lv : Leaves) (edb : PiPtrEDB) (K1 K2 l0 : Bytes)
    (h0 : cfg.prfF.call lv.hmac K1 [0] = .ok l0) (hmiss : edb.D.get l0 = none) :
    Pi2Lev.search cfg lv edb (K1, K2) = .ok [] := by
  have hnone : (edb.D.get l0).isNone = true := by rw [hmiss, Option.isNone_none]
  rw [Pi2Lev.search, h0, ok_bind, if_pos hnone, pure_eq]

/-- SSE-2: a keyword whose first address `π(w ‖ 1)` is not the address of a stored posting gets the empty result, when the
    addresses of the stored postings are distinct (`hinj`) and no identifier is posted more than `param_max` times
    (`hcap`: the filler loop does not run) -/
theorem SSE2.search_absent_empty (cfg : SSE2Cfg) (lv : Leaves) (K1 : Bytes) (db : DB) (I : ITable)
    (hs : SSE2.setup cfg lv K1 db = .ok I)
    (hinj : ∀ ws, SSE2.writes cfg lv K1 db = .ok ws → (ws.map (·.1)).Nodup)
    (hcap : ∀ I0 cnt, SSE2.encDb cfg lv K1 db [] [] = .ok (I0, cnt) → ∀ p ∈ cnt, p.2 ≤ cfg.max)
    (w : Bytes) (hfresh : ∀ a, SSE2.addr cfg lv K1 w ((1 + 0 : Nat) : Int) = .ok a →
      ∀ ws, SSE2.writes cfg lv K1 db = .ok ws → a ∉ ws.map (·.1))
    (tk : List Nat) (htk : SSE2.token cfg lv K1 w = .ok tk) : SSE2.search I tk = [] := by
  have hws := SSE2.setup_index hs hcap hinj
  exact SSE2.search_writes hws (hinj I hws) htk [] (.inl rfl) (Nat.zero_le _) fun _ a ha => hfresh a ha I hws

/-- SSE-2, the whole of C02 with no hypothesis about the run: on a valid database (as in `C01.SSE2.correct`), for a keyword
    that is not in it (no leading NUL, at most `param_l` bytes), `TokenGen` returns and `Search` yields the empty result. -/
theorem SSE2.absent_correct (raw : RawCfg) (cfg : SSE2Cfg) (hcfg : SSE2.cfgBuild raw = .ok cfg) (lv : Leaves)
    (hl : LeafLaws lv) (K1 : Bytes) (hK : (K1.length : Int) = cfg.k) (db : DB) (I : ITable)
    (hs : SSE2.setup cfg lv K1 db = .ok I) (hkeys : (db.map (·.1)).Nodup) (hvalid : ∀ p ∈ db, NoLeadingNul p.1)
    (hcap : ∀ id, (db.flatMap (·.2)).count id ≤ cfg.max)
    (w : Bytes) (hw : NoLeadingNul w) (hwl : (w.length : Int) ≤ cfg.l) (habs : w ∉ db.map (·.1)) :
    ∃ tk, SSE2.token cfg lv K1 w = .ok tk ∧ SSE2.search I tk = [] := by
  obtain ⟨hu, hn⟩ := SSE2.cfgBuild_usable cfg raw hcfg
  obtain ⟨tk, htk⟩ := SSE2.token_returns cfg lv hl.hmac_len hu K1 w hK hwl hn
  have hget : db.get w = [] := DB.get_of_not_mem habs
  have hlen : (db.get w).length ≤ cfg.n.toNat := by
    rw [hget]
    exact Nat.zero_le _
  refine ⟨tk, htk, ?_⟩
  rw [← hget]
  exact SSE2.search_setup hl.hmac_len hu.lbits hu.bits hkeys hvalid hs (SSE2.cap_of_count cfg lv K1 db hcap) hw hlen htk

/-- DP17: a token none of whose `L` probe keys `H(tag ‖ c)` is in the hash table gets the empty result: no bucket is read,
    nothing is decrypted, nothing raises -/
theorem DP17.search_absent_empty (cfg : DP17Cfg) (lv : Leaves) (edb : DP17EDB) (tag vtag etag : Bytes)
    (hmiss : ∀ c, 1 ≤ c → c < 1 + cfg.L.toNat →
      ∃ key, DP17.hashH cfg lv (tag ++ natToBytesMin c) = .ok key ∧ edb.HT.get key = none) :
    DP17.search cfg lv edb [tag, vtag, etag] = .ok [] := by
  rw [DP17.search_three]
  exact DP17.searchCounts_absent cfg lv edb tag vtag etag cfg.L.toNat 1 hmiss

end SSEPy.C02
