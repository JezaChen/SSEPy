/-
  C20 — Persistent byte dictionaries behave like a dict and survive close/reopen.
  Reference model: the finite map `absMap d : Bytes → Option Bytes` (plus the key order of a Python dict).
-/
import SSEPyVerif.Proofs.PDict
namespace SSEPy.C20
open SSEPy.PDict

def absMap (d : PDict) : Bytes → Option Bytes := fun k => lookup k d.data

theorem lookup_insert (a : Assoc) (k v k' : Bytes) :
    lookup k' (dinsert k v a) = if k' = k then some v else lookup k' a := by
  induction a with
  | nil =>
    simp only [dinsert, lookup]
    by_cases h : k = k' <;> simp [h, eq_comm]
  | cons p rest ih =>
    obtain ⟨pk, pv⟩ := p
    simp only [dinsert]
    by_cases hp : pk = k
    · subst hp
      simp only [↓reduceIte, lookup]
      by_cases h : pk = k'
      · simp [h]
      · have : ¬ k' = pk := fun e => h e.symm
        simp [h, this]
    · simp only [hp, ↓reduceIte, lookup, ih]
      by_cases h : pk = k'
      · subst h; simp [hp]
      · simp [h]

theorem lookup_erase (a : Assoc) (hwf : WF a) (k k' : Bytes) :
    lookup k' (derase k a) = if k' = k then none else lookup k' a := by
  induction a with
  | nil => simp [derase, lookup]
  | cons p rest ih =>
    obtain ⟨pk, pv⟩ := p
    have hwf' : WF rest := (List.nodup_cons.mp hwf).2
    have hnot : pk ∉ rest.map Prod.fst := (List.nodup_cons.mp hwf).1
    simp only [derase]
    by_cases hp : pk = k
    · subst hp
      simp only [↓reduceIte, lookup]
      by_cases h : pk = k'
      · subst h; simp [lookup_eq_none hnot]
      · have : ¬ k' = pk := fun e => h e.symm
        simp [h, this]
    · simp only [hp, ↓reduceIte, lookup, ih hwf']
      by_cases h : pk = k'
      · subst h; simp [hp]
      · simp [h]

theorem wf_insert (a : Assoc) (h : WF a) (k v : Bytes) : WF (dinsert k v a) := by
  unfold WF
  rw [map_fst_dinsert]
  split
  · exact h
  · rename_i hn
    have hdisj : ∀ x ∈ a.map Prod.fst, ∀ y ∈ [k], x ≠ y := by
      intro x hx y hy e
      rw [List.mem_singleton.mp hy] at e
      exact hn (e ▸ hx)
    rw [List.nodup_append]
    exact ⟨h, List.nodup_cons.mpr ⟨List.not_mem_nil, List.nodup_nil⟩, hdisj⟩

theorem wf_erase (a : Assoc) (h : WF a) (k : Bytes) : WF (derase k a) := by
  induction a with
  | nil => exact h
  | cons p rest ih =>
    obtain ⟨pk, pv⟩ := p
    have h' := List.nodup_cons.mp h
    simp only [derase]
    split
    · exact h'.2
    · exact List.nodup_cons.mpr ⟨fun hm => h'.1 (mem_of_mem_derase k pk rest hm), ih h'.2⟩

theorem step_wf (d : PDict) (op : Op) (h : WF d.data) : WF (step d op).1.data := by
  unfold step
  cases op with
  | set k v =>
    cases v with
    | nonBytes => exact h
    | bytes b =>
      simp only
      split
      · exact h
      · exact wf_insert _ h _ _
  | del k =>
    simp only
    split
    · exact h
    · split
      · exact wf_erase _ h _
      · exact h
  | clear =>
    simp only
    split
    · exact h
    · exact List.nodup_nil
  -- the rest leave `data` as it is, closed or open
  | get k =>
    simp only
    split
    · exact h
    · split <;> exact h
  | close | contains k | len | iter | getd k dflt | sync => simp only; split <;> exact h

/-- Every keyed observation of an open dictionary is the finite map's (`len` and iteration are read off
    the key list), and every accepted mutation is the corresponding update of the finite map. -/
theorem refines_map (d : PDict) (hopen : d.closed = false) (hwf : WF d.data) (k : Bytes) :
    (step d (.get k)).2 = (match absMap d k with | some v => Out.val v | none => Out.err .keyError) ∧
    (step d (.contains k)).2 = .bool (absMap d k).isSome ∧
    (∀ dflt, (step d (.getd k dflt)).2 = .optVal ((absMap d k).or dflt)) ∧
    (step d .len).2 = .nat (d.data.map Prod.fst).length ∧
    (step d .iter).2 = .keys (d.data.map Prod.fst) ∧
    (∀ b, absMap (step d (.set k (.bytes b))).1 = fun k' => if k' = k then some b else absMap d k') ∧
    (absMap (step d (.del k)).1 = fun k' => if k' = k then none else absMap d k') ∧
    ((step d (.del k)).2 = (if (absMap d k).isSome then Out.unit else Out.err .keyError)) ∧
    (absMap (step d .clear).1 = fun _ => none) := by
  unfold absMap
  refine ⟨?_, ?_, ?_, ?_, ?_, ?_, ?_, ?_, ?_⟩
  · simp only [step, hopen, Bool.false_eq_true, ↓reduceIte]
    cases lookup k d.data <;> rfl
  · simp [step, hopen]
  · intro dflt
    simp [step, hopen]
  · simp [step, hopen]
  · simp [step, hopen]
  · intro b
    funext k'
    simp only [step, hopen, Bool.false_eq_true, ↓reduceIte]
    exact lookup_insert _ _ _ _
  · funext k'
    simp only [step, hopen, Bool.false_eq_true, ↓reduceIte]
    cases hl : lookup k d.data with
    | some v =>
      simp only
      exact lookup_erase _ hwf _ _
    | none =>
      simp only
      by_cases hk : k' = k
      · subst hk; simp [hl]
      · simp [hk]
  · simp only [step, hopen, Bool.false_eq_true, ↓reduceIte]
    cases lookup k d.data <;> rfl
  · funext k'
    simp [step, hopen, lookup]

/-- values that are not byte strings are refused without effect (open or closed) -/
theorem non_bytes_refused_noop (d : PDict) (k : Bytes) :
    step d (.set k .nonBytes) = (d, .err .typeError) := rfl

/-- after close followed by open the contents are exactly those at the time of closing -/
theorem reopen_contents_eq_at_close (d : PDict) (hopen : d.closed = false) :
    reopen (step d .close).1 = .ok { data := d.data, closed := false, disk := some d.data } := by
  simp only [step, hopen, reopen, Bool.false_eq_true, ↓reduceIte]

/-- sync writes exactly the current contents to the backing file -/
theorem sync_persists (d : PDict) (hopen : d.closed = false) : (step d .sync).1.disk = some d.data := by
  simp only [step, hopen, Bool.false_eq_true, ↓reduceIte]

/-- using a closed dictionary raises ValueError (closing again is allowed; a non-bytes value is still
    a TypeError) and changes nothing -/
theorem closed_ops_raise (d : PDict) (hc : d.closed = true) (op : Op) :
    (step d op).1 = d ∧
    (step d op).2 = (match op with
      | .close => .unit
      | .set _ .nonBytes => .err .typeError
      | _ => .err .valueError) := by
  unfold step
  cases op with
  | set k v =>
    cases v with
    | nonBytes => exact ⟨rfl, rfl⟩
    | bytes b => simp [hc]
  -- `close` tests the flag itself; all others go through the common test at the head of `step`
  | close => simp [hc]
  | get k | del k | contains k | len | iter | getd k dflt | clear | sync => simp [hc]

/-- a dictionary built from an existing dict holds its entries, open and already persisted (the model's
    `fromDict` takes a value, so a later change of the argument is not expressible) -/
theorem from_dict_independent (a : Assoc) :
    (fromDict a).data = a ∧ (fromDict a).disk = some a ∧ (fromDict a).closed = false := ⟨rfl, rfl, rfl⟩

/-- failing operations (missing key, closed handle, non-bytes value) leave the dictionary unchanged -/
theorem failed_op_unchanged (d : PDict) (op : Op) (e : Err) (h : (step d op).2 = .err e) : (step d op).1 = d := by
  by_cases hc : d.closed = true
  · exact (closed_ops_raise d hc op).1
  · -- on an open dictionary the failures are a non-bytes value and a missing key
    unfold step at h ⊢
    cases op with
    | set k v =>
      cases v with
      | nonBytes => rfl
      | bytes b => simp only [if_neg hc] at h; cases h
    | get k => simp only [if_neg hc]; split <;> rfl
    | del k =>
      simp only [if_neg hc] at h ⊢
      cases hl : lookup k d.data with
      | some v => rw [hl] at h; cases h
      | none => rfl
    -- these return `d`, whatever they answer
    | contains k | len | iter | getd k dflt => simp only [if_neg hc]
    -- these answer `.unit` on an open dictionary
    | close | clear | sync => simp only [if_neg hc] at h; cases h

/-! Non-vacuity: a well-formed list, and a history with deletion, close and reopen, computed. -/
example : WF [([1], [9]), ([2], [8])] := by unfold WF; decide
example :
    let d1 := (step create (.set [1] (.bytes [9]))).1
    let d2 := (step d1 (.set [2] (.bytes []))).1
    let d3 := (step d2 (.del [1])).1
    let d4 := (step d3 .close).1
    ((step d3 (.getd [2] (some [7]))).2, (step d4 .len).2, (reopen d4).toOption.map (·.data))
      = (.optVal (some []), .err .valueError, some [([2], [])]) := by decide +kernel

end SSEPy.C20
