/-
  C18 — Bit strings behave like fixed-width big-endian bit vectors.
  Reference model: the MSB-first list of bits `toBits` (with inverse `ofBits`), equivalently the
  LSB-indexed `Nat.testBit` of the value below the length.
-/
import SSEPyVerif.Proofs.Bits
import SSEPyVerif.Proofs.Bytes
import SSEPyVerif.Proofs.PySeq
namespace SSEPy.C18
open Bitset

/-- with `bits_roundtrip_inv`: the lists of bits and the well-formed `(value, length)` pairs of the code are the
    same thing -/
theorem bits_roundtrip (l : List Bool) : (ofBits l).toBits = l ∧ (ofBits l).WF :=
  ⟨toBits_ofBits l, ofBits_wf l⟩

theorem bits_roundtrip_inv (a : Bitset) (ha : a.WF) : ofBits a.toBits = a := ofBits_toBits a ha

/-- `Bitset(v, len)` with `v < 2^len` keeps both -/
theorem ctor_keeps (v len : Nat) (hlen : len ≠ 0) (h : v < 2 ^ len) :
    mk' v len = .ok ⟨v, len⟩ := mk'_of_lt v len h

/-- `Bitset(v, len)` with `len ≠ 0` and `v ≥ 2^len` raises ValueError -/
theorem ctor_rejects_wide (v len : Nat) (hlen : len ≠ 0) (h : 2 ^ len ≤ v) :
    mk' v len = .error .valueError := by
  have : bitLength v > len := Nat.lt_of_not_le fun hle => Nat.not_lt.mpr h ((bitLength_le_iff v len).mp hle)
  rw [mk', if_pos ⟨hlen, this⟩]

/-- construction without a length uses the minimal number of bits: `len(Bitset(v)) == v.bit_length()` -/
theorem ctor_len_auto (v : Nat) :
    mk' v = .ok ⟨v, bitLength v⟩ ∧ (⟨v, bitLength v⟩ : Bitset).WF :=
  ⟨by simp [mk', autoLen], lt_two_pow_bitLength v⟩

/-- `Bitset(b, len)` for bytes `b` is `Bitset(int_from_bytes(b), len)` -/
theorem ctor_bytes (b : Bytes) (len : Nat) : ofBytes b len = mk' (intFromBytes b) len := rfl

/-- `a + b` succeeds on well-formed strings, and its bits are those of `a` followed by those of `b` -/
theorem concat_spec (a b : Bitset) (ha : a.WF) (hb : b.WF) :
    ∃ c, a.concat b = .ok c ∧ c.WF ∧ c.toBits = a.toBits ++ b.toBits :=
  ⟨_, concat_eq ha hb, ha.concat hb, toBits_append _ _ _ _ hb⟩

/-- for `k ≤ len` the higher `k` bits are the first `k` list elements -/
theorem higher_spec (a : Bitset) (ha : a.WF) (k : Nat) (hk : k ≤ a.length) :
    ∃ c, a.getHigherBits k = .ok c ∧ c.WF ∧ c.length = k ∧ c.toBits = a.toBits.take k ∧
      c.value = a.value / 2 ^ (a.length - k) := by
  refine ⟨_, getHigherBits_eq ha k hk, ha.high k hk, rfl, ?_, rfl⟩
  rw [toBits_split a k (a.length - k) (by omega)]
  exact (List.take_left' (toBits_length _)).symm

/-- `get_higher_bits(k)` with `k < 0` or `k > len` raises ValueError -/
theorem higher_rejects_beyond_length (a : Bitset) (k : Int) (hk : k < 0 ∨ k > a.length) :
    a.getHigherBits k = .error .valueError := by
  unfold getHigherBits
  -- the first test is `k < 0`, the second `k > len`; both give the same error
  split
  · rfl
  · rename_i hneg
    exact if_pos (hk.resolve_left hneg)

/-- for `k ≤ len` the lower `k` bits are the last `k` list elements -/
theorem lower_spec (a : Bitset) (_ha : a.WF) (k : Nat) (hk : k ≤ a.length) :
    ∃ c, a.getLowerBits k = .ok c ∧ c.WF ∧ c.length = k ∧ c.toBits = a.toBits.drop (a.length - k) ∧
      c.value = a.value % 2 ^ k := by
  refine ⟨_, getLowerBits_eq a k hk, Nat.mod_lt _ (Nat.pow_pos (by omega)), rfl, ?_, rfl⟩
  rw [toBits_split a (a.length - k) k (by omega)]
  exact (List.drop_left' (toBits_length ⟨_, a.length - k⟩)).symm

/-- `get_lower_bits(k)` with `k < 0` or `k > len` raises ValueError -/
theorem lower_rejects_beyond_length (a : Bitset) (k : Int) (hk : k < 0 ∨ k > a.length) :
    a.getLowerBits k = .error .valueError := by
  unfold getLowerBits
  split
  · rfl
  · rename_i hneg
    exact if_pos (hk.resolve_left hneg)

/-- `(a + b).higher(len a) == a` and `(a + b).lower(len b) == b` -/
theorem higher_lower_concat (a b : Bitset) (ha : a.WF) (hb : b.WF) :
    ∃ c, a.concat b = .ok c ∧ c.getHigherBits a.length = .ok a ∧ c.getLowerBits b.length = .ok b := by
  have hpos : 0 < 2 ^ b.length := Nat.pow_pos (by omega)
  refine ⟨_, concat_eq ha hb, ?_, ?_⟩
  · rw [getHigherBits_eq (ha.concat hb) _ (Nat.le_add_right _ _)]
    simp only [Nat.add_sub_cancel_left]
    rw [Nat.add_comm, Nat.add_mul_div_right _ _ hpos, Nat.div_eq_of_lt hb, Nat.zero_add]
  · rw [getLowerBits_eq _ _ (Nat.le_add_left _ _)]
    simp only [Nat.mul_add_mod', Nat.mod_eq_of_lt hb]

/-- halving without padding splits the list in ⌊n/2⌋ and ⌈n/2⌉ bits; concatenating restores it -/
theorem half_not_padding_spec (x : Bitset) (hx : x.WF) :
    ∃ l r, x.halfNotPadding = .ok (l, r) ∧ l.WF ∧ r.WF ∧
      l.length = x.length / 2 ∧ r.length = (x.length + 1) / 2 ∧
      l.toBits ++ r.toBits = x.toBits := by
  obtain ⟨h, hw, hw'⟩ := halfNotPadding_spec hx
  exact ⟨_, _, h, hw, hw', rfl, rfl,
    (toBits_split x _ _ (by omega)).symm⟩

/-- `half_bits` pads the left half to the right half's length (one leading zero for odd lengths) -/
theorem half_spec (x : Bitset) (hx : x.WF) :
    ∃ l r, x.half = .ok (l, r) ∧ l.WF ∧ r.WF ∧
      l.length = (x.length + 1) / 2 ∧ r.length = (x.length + 1) / 2 ∧
      l.value = x.value / 2 ^ ((x.length + 1) / 2) ∧ r.value = x.value % 2 ^ ((x.length + 1) / 2) := by
  obtain ⟨h, hw, hw'⟩ := halfNotPadding_spec hx
  simp only [half, h, ok_bind]
  refine ⟨_, _, rfl, ?_, hw', ?_, rfl, ?_, rfl⟩
  · split
    · exact hw.le (by show x.length / 2 ≤ (x.length + 1) / 2; omega)
    · exact hw
  · split
    · rfl
    · show x.length / 2 = (x.length + 1) / 2; omega
  · split <;> rfl

/-- and / or / xor: bitwise on the values, result as long as the longer operand, well-formed (for `and`
    already when `a` is) -/
theorem and_spec (a b : Bitset) (ha : a.WF) :
    (a.and b).length = max a.length b.length ∧ (a.and b).WF ∧
    ∀ i, (a.and b).value.testBit i = (a.value.testBit i && b.value.testBit i) := by
  refine ⟨rfl, ?_, fun i => by simp [Bitset.and]⟩
  unfold WF Bitset.and
  exact Nat.lt_of_le_of_lt Nat.and_le_left (ha.le (Nat.le_max_left _ _))

theorem or_spec (a b : Bitset) (ha : a.WF) (hb : b.WF) :
    (a.or b).length = max a.length b.length ∧ (a.or b).WF ∧
    ∀ i, (a.or b).value.testBit i = (a.value.testBit i || b.value.testBit i) := by
  refine ⟨rfl, ?_, fun i => by simp [Bitset.or]⟩
  exact Nat.or_lt_two_pow (ha.le (Nat.le_max_left _ _)) (hb.le (Nat.le_max_right _ _))

theorem xor_spec (a b : Bitset) (ha : a.WF) (hb : b.WF) :
    (a.xor b).length = max a.length b.length ∧ (a.xor b).WF ∧
    ∀ i, (a.xor b).value.testBit i = (a.value.testBit i ^^ b.value.testBit i) :=
  ⟨rfl, ha.xor hb, fun i => by simp [Bitset.xor]⟩

/-- invert flips exactly the bits below the length -/
theorem invert_spec (a : Bitset) (ha : a.WF) :
    a.invert.length = a.length ∧ a.invert.WF ∧
    ∀ i, a.invert.value.testBit i = (decide (i < a.length) && !a.value.testBit i) := by
  unfold WF at ha
  have hmod : a.value % 2 ^ a.length = a.value := Nat.mod_eq_of_lt ha
  refine ⟨rfl, ?_, ?_⟩
  · unfold WF invert
    simp only [hmod]
    have hpos : 0 < 2 ^ a.length := Nat.pow_pos (by decide)
    omega
  · intro i
    unfold invert
    simp only [hmod]
    have : 2 ^ a.length - 1 - a.value = 2 ^ a.length - (a.value + 1) := by omega
    rw [this, Nat.testBit_two_pow_sub_succ ha]

/-- fixed-width shifts: left shift drops the bits that leave the width, right shift is plain division -/
theorem shl_spec (a : Bitset) (k : Nat) :
    (a.shl k).length = a.length ∧ (a.shl k).WF ∧
    ∀ i, (a.shl k).value.testBit i = (decide (i < a.length) && decide (k ≤ i) && a.value.testBit (i - k)) := by
  refine ⟨rfl, Nat.mod_lt _ (Nat.pow_pos (by omega)), ?_⟩
  intro i
  simp only [shl, Nat.testBit_mod_two_pow, Nat.testBit_mul_two_pow, Bool.and_assoc]

theorem shr_spec (a : Bitset) (ha : a.WF) (k : Nat) :
    (a.shr k).length = a.length ∧ (a.shr k).WF ∧
    ∀ i, (a.shr k).value.testBit i = a.value.testBit (i + k) := by
  refine ⟨rfl, ?_, fun i => by simp [shr, Nat.testBit_div_two_pow]⟩
  unfold WF shr
  exact Nat.lt_of_le_of_lt (Nat.div_le_self _ _) ha

/-- in-range indexing is list indexing (0 = most significant bit) -/
theorem index_spec (a : Bitset) (i : Nat) (h : i < a.length) :
    a.getIdx i = .ok (a.toBits[i]'(by simpa [toBits] using h)) := by
  unfold getIdx
  have h1 : ¬ ((a.length : Int) - (i : Int) - 1 < 0) := by omega
  simp only [h1, ↓reduceIte, getElem_toBits]
  congr 2; omega

/-- slicing: every `start:stop:step` selects, for `p` in the Python range of the slice, bit `len - p - 1` of
    the value -/
theorem slice_spec (a : Bitset) (s e st : Option Int) (idx : List Int)
    (hidx : sliceRange s e st a.length = .ok idx) :
    a.getSlice s e st = .ok (idx.map fun p => a.value.testBit ((a.length : Int) - p - 1).toNat) := by
  unfold getSlice
  simp [hidx]

/-- the full slice `b[:]` is the list of bits -/
theorem full_slice_spec (a : Bitset) : a.getSlice none none none = .ok a.toBits := by
  rw [getSlice, sliceRange_full, toBits]
  simp only [List.map_map]
  congr 1
  apply List.map_congr_left
  intro i _
  show a.value.testBit ((a.length : Int) - i - 1).toNat = a.value.testBit (a.length - i - 1)
  congr 1
  omega

/-- conversion to bytes: the ⌈n/8⌉-byte big-endian encoding of the value -/
theorem bytes_spec (a : Bitset) (ha : a.WF) :
    ∃ b, a.toBytes = .ok b ∧ b.length = (a.length + 7) / 8 ∧ intFromBytes b = a.value := by
  have h := toBytes_eq a ha
  obtain ⟨hval, hlen⟩ := toBytes_inv h
  exact ⟨_, h, hlen, hval⟩

/-- `a == b` between two Bitsets holds exactly when value and length agree -/
theorem eq_spec (a b : Bitset) : a.beq b = true ↔ a = b := by
  cases a; cases b; simp [beq]

/-- `int(b)` for `ofBits l` (the constructor of `Proofs/Bits`, of length `|l|`; not the model's `fromSequence`,
    whose length is automatic) is `l` read as a binary numeral, most significant bit first: the definition -/
theorem int_spec (l : List Bool) : (ofBits l).toInt = l.foldl (fun acc b => 2 * acc + (if b then 1 else 0)) 0 := rfl

/-! Non-vacuity: the operations compute on concrete strings. -/
example : (⟨0b10110, 5⟩ : Bitset).WF := by decide +kernel
example : (⟨0b10110, 5⟩ : Bitset).toBits = [true, false, true, true, false] := by decide +kernel
example : (⟨0b101, 3⟩ : Bitset).concat ⟨0b01, 2⟩ = .ok ⟨0b10101, 5⟩ := by decide +kernel
example : (⟨0b10110, 5⟩ : Bitset).halfNotPadding = .ok (⟨0b10, 2⟩, ⟨0b110, 3⟩) := by decide +kernel
example : (⟨0b10110, 5⟩ : Bitset).half = .ok (⟨0b10, 3⟩, ⟨0b110, 3⟩) := by decide +kernel
example : (⟨0x1ff, 9⟩ : Bitset).toBytes = .ok [1, 255] := by decide +kernel

end SSEPy.C18
