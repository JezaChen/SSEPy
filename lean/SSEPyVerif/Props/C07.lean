/-
  C07 — Setup and search leave their inputs intact; searches repeat in any order.

  In the models `Search` is a function of (index, token) that returns a result and nothing else, so the index after a search
  is the index before it.  `history_independent` is the consequence the property names — any sequence of searches against
  one index, in any order and with any repetition, returns for each token what that token returns when it is the only
  search — stated for a state-passing `step` and instantiated for the nine scheme models
  (`all_schemes_history_independent`).  Purity is true by construction in a functional model; that the code is pure is what
  `scheme_layer_mutates_only_its_own_objects` (about the mutating statements extracted from the source), the
  correspondence (same model, recorded runs) and the before/after comparison on the real objects establish.
-/
import SSEPyVerif.Model.Schemes.Wire
import SSEPyVerif.Model.Schemes.SSE2
import SSEPyVerif.Generated.MutationSites
namespace SSEPy.C07
open SSEPy.Sch

/-- run a history of requests, threading the state -/
def history (step : σ → τ → σ × ρ) : σ → List τ → σ × List ρ
  | s, [] => (s, [])
  | s, x :: xs => let r := step s x; let rest := history step r.1 xs; (rest.1, r.2 :: rest.2)

theorem history_independent (step : σ → τ → σ × ρ) (pure : ∀ s x, (step s x).1 = s) (s : σ) (xs : List τ) :
    history step s xs = (s, xs.map fun x => (step s x).2) := by
  induction xs with
  | nil => rfl
  | cons x xs ih =>
    -- the state after `x` is `s` again, so the rest of the history starts where this one did
    simp only [history, pure, ih, List.map_cons]

theorem answer_at_any_position (step : σ → τ → σ × ρ) (pure : ∀ s x, (step s x).1 = s) (s : σ) (xs : List τ) (i : Nat)
    (h : i < xs.length) :
    (history step s xs).2[i]? = some (step s xs[i]).2 := by
  rw [history_independent step pure s xs, List.getElem?_map, List.getElem?_eq_getElem h, Option.map_some]

def PiBasPiPack.step (cfg : ChainCfg) (lv : Leaves) (D : Table) (tk : Bytes × Bytes) := (D, Chain.search cfg lv D tk)
def PiPtr.step (cfg : PiPtrCfg) (lv : Leaves) (e : PiPtrEDB) (tk : Bytes × Bytes) := (e, PiPtr.search cfg lv e tk)
def Pi2Lev.step (cfg : Pi2LevCfg) (lv : Leaves) (e : PiPtrEDB) (tk : Bytes × Bytes) := (e, Pi2Lev.search cfg lv e tk)
def CT14.step (cfg : CT14Cfg) (lv : Leaves) (HT : List Table) (tk : Bytes × Bytes) := (HT, CT14.search cfg lv HT tk)
def ANSS16.step (cfg : ANSSCfg) (lv : Leaves) (e : ANSSEDB) (tk : ANSSToken) := (e, ANSS16.search cfg lv e tk)
def SSE1.step (cfg : SSE1Cfg) (lv : Leaves) (e : SSE1EDB) (tk : Bytes × Bytes) := (e, SSE1.search cfg lv e tk)
def SSE2.step (I : ITable) (tk : List Nat) := (I, SSE2.search I tk)
def DP17.step (cfg : DP17Cfg) (lv : Leaves) (e : DP17EDB) (tk : List Bytes) := (e, DP17.search cfg lv e tk)

theorem all_schemes_history_independent :
    (∀ cfg lv D tks, history (PiBasPiPack.step cfg lv) D tks = (D, tks.map fun tk => Chain.search cfg lv D tk)) ∧
    (∀ cfg lv e tks, history (PiPtr.step cfg lv) e tks = (e, tks.map fun tk => PiPtr.search cfg lv e tk)) ∧
    (∀ cfg lv e tks, history (Pi2Lev.step cfg lv) e tks = (e, tks.map fun tk => Pi2Lev.search cfg lv e tk)) ∧
    (∀ cfg lv e tks, history (CT14.step cfg lv) e tks = (e, tks.map fun tk => CT14.search cfg lv e tk)) ∧
    (∀ cfg lv e tks, history (ANSS16.step cfg lv) e tks = (e, tks.map fun tk => ANSS16.search cfg lv e tk)) ∧
    (∀ cfg lv e tks, history (SSE1.step cfg lv) e tks = (e, tks.map fun tk => SSE1.search cfg lv e tk)) ∧
    (∀ I tks, history SSE2.step I tks = (I, tks.map fun tk => SSE2.search I tk)) ∧
    (∀ cfg lv e tks, history (DP17.step cfg lv) e tks = (e, tks.map fun tk => DP17.search cfg lv e tk)) :=
  ⟨fun _ _ D tks => history_independent _ (fun _ _ => rfl) D tks,
   fun _ _ e tks => history_independent _ (fun _ _ => rfl) e tks,
   fun _ _ e tks => history_independent _ (fun _ _ => rfl) e tks,
   fun _ _ e tks => history_independent _ (fun _ _ => rfl) e tks,
   fun _ _ e tks => history_independent _ (fun _ _ => rfl) e tks,
   fun _ _ e tks => history_independent _ (fun _ _ => rfl) e tks,
   fun I tks => history_independent _ (fun _ _ => rfl) I tks,
   fun _ _ e tks => history_independent _ (fun _ _ => rfl) e tks⟩

/-! The code changes only objects it created itself.  `Generated/MutationSites.lean` (regenerated from the source on every
  run) lists every mutating statement of the scheme layer — subscript / attribute stores,
  augmented stores, `del`, calls of mutating methods, `random.shuffle`, calls of repository functions that change the
  parameter they are given — in `schemes/*/*/{construction,structures,config}.py`, `schemes/interface/*.py` and (for shared
  state and in-place helpers) `toolkit/`, each with the provenance of the object it changes as computed by the alias
  analysis of `harness/translate/mutation_sites.py`.  The theorem says that every one of them changes an object created
  inside the call (`fresh`) or initialises the object under construction (`init`), with two families of exceptions spelled
  out in `benign`.  A dropped deep copy (CT14 / ANSS16 pad a copy of the database), a helper that starts working in place,
  a per-object or per-module cache, a mutable default argument — each turns a row into `param`, `self`, `global` or
  `default` and the theorem stops checking. -/

open SSEPy.Generated in
/-- state that outlives a call, each kind benign for the stated reason -/
def benign (s : MutSite) : Bool :=
  -- the four primitive factories memoise the class registered under a primitive's name (idempotent; no key, keyword or
  -- identifier is stored; what the factories return is checked by C14 / C16)
  (s.kind == .global && s.root == "cache" &&
    (s.func == "get_hash_implementation" || s.func == "get_prf_implementation" || s.func == "get_prp_implementation" ||
     s.func == "get_symmetric_encryption_implementation")) ||
  -- the module loader imports a scheme's three modules lazily and keeps the module objects
  (s.kind == .self && s.file == "schemes/interface/module_loader.py" &&
    (s.func == "SSEModuleClassLoader._load_construction_module" || s.func == "SSEModuleClassLoader._load_structure_module" ||
     s.func == "SSEModuleClassLoader._load_config_module"))

open SSEPy.Generated in
def siteOk (s : MutSite) : Bool := s.kind == .fresh || s.kind == .init || benign s

open SSEPy.Generated in
theorem scheme_layer_mutates_only_its_own_objects :
    ∀ s ∈ mutationSites, s.kind = .fresh ∨ s.kind = .init ∨ benign s = true := by
  have h : mutationSites.all siteOk = true := by decide +kernel
  intro s hs
  have := List.all_eq_true.mp h s hs
  simp only [siteOk, Bool.or_eq_true, beq_iff_eq] at this
  rcases this with (h1 | h1) | h1
  · exact Or.inl h1
  · exact Or.inr (Or.inl h1)
  · exact Or.inr (Or.inr h1)

open SSEPy.Generated in
/-- non-vacuity: the table is not empty and does contain stores into containers (the padded copy of CT14 / ANSS16 among them) -/
example : 100 < mutationSites.length ∧ (mutationSites.any fun s => s.root == "padded_database" && s.kind == .fresh) = true := by
  decide +kernel

example : history (fun (s : Nat) (x : Nat) => (s, s + x)) 10 [1, 2, 1] = (10, [11, 12, 11]) := by decide

end SSEPy.C07
