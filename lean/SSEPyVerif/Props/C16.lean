/-
  C16 — PRF and hash wrappers: exact output length, standard-conformant, contracts enforced.
  The HMAC and hash digests are arbitrary functions with a fixed positive output length `d`.
-/
import SSEPyVerif.Proofs.PHash
namespace SSEPy.C16

/-- `_tls_p_hash` as written equals the RFC 5246 P_hash stream truncated to the requested length. -/
theorem phash_eq_rfc (hmac : Hmac) (d : Nat) (key msg : Bytes) (n : Nat) :
    tlsPHash hmac d key msg n
      = (rfcStream hmac key msg ((n + d - 1) / d)).take n := by
  unfold tlsPHash
  by_cases h0 : (n : Int) ≤ 0
  · have : n = 0 := by omega
    subst this; simp
  · simp only [h0, ↓reduceIte, Int.toNat_natCast, pHashLoop_rfc]

/-- the output has exactly the requested number of bytes, however many digests that needs -/
theorem phash_len (hmac : Hmac) (d : Nat) (hd : ∀ k m, (hmac k m).length = d) (hd0 : 0 < d)
    (key msg : Bytes) (n : Nat) : (tlsPHash hmac d key msg n).length = n := by
  rw [phash_eq_rfc, List.length_take, rfcStream_length hmac d hd key msg]
  exact Nat.min_eq_left (le_ceilDiv_mul n d hd0)

/-- any number of RFC blocks that covers the request gives the same bytes (so the implementation's
    block count is immaterial) -/
theorem phash_any_block_count (hmac : Hmac) (d : Nat) (hd : ∀ k m, (hmac k m).length = d) (hd0 : 0 < d)
    (key msg : Bytes) (n m : Nat) (hm : n ≤ m * d) :
    tlsPHash hmac d key msg n = (rfcStream hmac key msg m).take n := by
  rw [phash_eq_rfc]
  exact take_flatten_range_map _ d (fun _ => hd _ _) n _ m (le_ceilDiv_mul n d hd0) hm

/-- shorter outputs are prefixes of longer ones -/
theorem phash_prefix (hmac : Hmac) (d : Nat) (hd : ∀ k m, (hmac k m).length = d) (hd0 : 0 < d)
    (key msg : Bytes) (n n' : Nat) (h : n ≤ n') :
    tlsPHash hmac d key msg n = (tlsPHash hmac d key msg n').take n := by
  rw [phash_any_block_count hmac d hd hd0 key msg n ((n' + d - 1) / d)
      (Nat.le_trans h (le_ceilDiv_mul n' d hd0)), phash_eq_rfc hmac d key msg n']
  rw [List.take_take, Nat.min_eq_left h]

/-- `HmacPRF.__call__`: a key or message whose length is not the declared one is refused with ValueError,
    whatever `hmac` is; otherwise the result is P_hash at the configured output length. -/
theorem prf_contracts (p : HmacPRF) (hmac : Hmac) (key msg : Bytes) :
    (p.keyLength ≠ -1 ∧ (key.length : Int) ≠ p.keyLength → p.call hmac key msg = .error .valueError) ∧
    (p.messageLength ≠ -1 ∧ (msg.length : Int) ≠ p.messageLength → p.call hmac key msg = .error .valueError) ∧
    ((p.keyLength = -1 ∨ (key.length : Int) = p.keyLength) →
     (p.messageLength = -1 ∨ (msg.length : Int) = p.messageLength) →
      p.call hmac key msg = .ok (tlsPHash hmac p.hashLen key msg p.outputLength)) := by
  refine ⟨?_, ?_, fun hk hm => HmacPRF.call_eq_ok.2 ⟨hk, hm, rfl⟩⟩
  · -- the key length is the first test of `HmacPRF.call`
    rintro ⟨h1, h2⟩
    unfold HmacPRF.call LENGTH_UNLIMITED
    rw [if_pos (bne_and_bne h1 h2)]
  · -- the message length is its second test; a refused key length gives the same error
    rintro ⟨h1, h2⟩
    unfold HmacPRF.call LENGTH_UNLIMITED
    split
    · rfl
    · rw [if_pos (bne_and_bne h1 h2)]

/-- a PRF built without an output length (`out = 0`) returns one digest worth of bytes, one built with
    `out > 0` exactly `out` bytes, and one built with a negative length (`LENGTH_UNLIMITED`) none -/
theorem prf_output_length (out keyLen msgLen : Int) (d : Nat) (hmac : Hmac)
    (hd : ∀ k m, (hmac k m).length = d) (hd0 : 0 < d) (key msg r : Bytes)
    (h : (HmacPRF.new out keyLen msgLen d).call hmac key msg = .ok r) :
    (r.length : Int) = if out = 0 then (d : Int) else max out 0 := by
  obtain ⟨_, _, rfl⟩ := HmacPRF.call_eq_ok.1 h
  unfold HmacPRF.new LENGTH_NOT_GIVEN
  by_cases ho : out = 0
  · subst ho
    simp only [beq_self_eq_true, ↓reduceIte]
    rw [phash_len hmac d hd hd0]
  · have : (out == 0) = false := by simp [ho]
    simp only [this, Bool.false_eq_true, ↓reduceIte, ho]
    by_cases hneg : out ≤ 0
    · simp [tlsPHash, hneg]; omega
    · obtain ⟨n, rfl⟩ : ∃ n : Nat, out = n := ⟨out.toNat, by omega⟩
      rw [phash_len hmac d hd hd0]; omega

/-- counter-mode expansion returns (its fuel is never exhausted) the first `n` bytes of the documented stream
    `H(m‖1)‖H(m‖2)‖…`, cut from some number `k` of digests that covers `n` -/
theorem ctr_expand_spec (hash : Bytes → Bytes) (d : Nat) (hd : ∀ m, (hash m).length = d) (hd0 : 0 < d)
    (msg : Bytes) (n : Nat) :
    ∃ k, n ≤ k * d ∧ ctrExpand hash msg n = .ok ((ctrStream hash msg k).take n) := by
  unfold ctrExpand
  by_cases h0 : (n : Int) ≤ 0
  · have : n = 0 := by omega
    subst this
    exact ⟨0, by simp, by simp⟩
  · simp only [h0, ↓reduceIte, Int.toNat_natCast]
    exact ctrLoop_returns hash d hd hd0 msg n (n + 1) 0 (by omega) (by omega)

theorem ctr_expand_len (hash : Bytes → Bytes) (d : Nat) (hd : ∀ m, (hash m).length = d) (hd0 : 0 < d)
    (msg : Bytes) (n : Nat) : ∃ r, ctrExpand hash msg n = .ok r ∧ r.length = n := by
  obtain ⟨k, hk, h⟩ := ctr_expand_spec hash d hd hd0 msg n
  refine ⟨_, h, ?_⟩
  rw [List.length_take, ctrStream_length hash d hd msg]; omega

/-- the `k` of `ctr_expand_spec` is immaterial -/
theorem ctr_expand_canonical (hash : Bytes → Bytes) (d : Nat) (hd : ∀ m, (hash m).length = d)
    (msg : Bytes) (n k k' : Nat) (hk : n ≤ k * d) (hk' : n ≤ k' * d) :
    (ctrStream hash msg k).take n = (ctrStream hash msg k').take n :=
  take_flatten_range_map _ d (fun _ => hd _) n k k' hk hk'

/-- XOF algorithms (shake) delegate to the native variable-length digest -/
theorem xof_delegates (hash : Bytes → Bytes) (xof : Bytes → Nat → Bytes) (msg : Bytes) (n : Nat) :
    hashWrapperCall true hash xof msg n = .ok (xof msg n) := by
  unfold hashWrapperCall
  have : ¬ ((n : Int) < 0) := by omega
  simp [this]

/-! Non-vacuity: a toy keyed digest with 2-byte outputs. -/
def toyHmac : Hmac := fun k m => [UInt8.ofNat (k.length + 3 * m.length), (m.headD 7) + (k.headD 1)]
example : ∀ k m, (toyHmac k m).length = 2 := fun _ _ => rfl
example : tlsPHash toyHmac 2 [1] [2, 3] 5 = [13, 8, 13, 8, 13] := by decide +kernel
example : (HmacPRF.new 0 1 (-1) 2).call toyHmac [1] [2, 3] = .ok [13, 8] := by decide +kernel
example : (HmacPRF.new 0 4 (-1) 2).call toyHmac [1] [2, 3] = .error .valueError := by decide +kernel
example : ctrExpand (fun m => [UInt8.ofNat m.length, m.getLastD 0]) [9, 9] 3 = .ok [3, 1, 3] := by decide +kernel

end SSEPy.C16
