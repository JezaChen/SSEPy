-- Root of the `SSEPyVerif` library: models, driver, proofs and property theorems (DESIGN.md sections 2 and 12).
import SSEPyVerif.Model.Basic
import SSEPyVerif.Model.Bits
import SSEPyVerif.Model.Bytes
import SSEPyVerif.Model.Cbc
import SSEPyVerif.Model.Client
import SSEPyVerif.Model.ClientCrash
import SSEPyVerif.Model.ClientIR
import SSEPyVerif.Model.Commands
import SSEPyVerif.Model.Feistel
import SSEPyVerif.Model.Manager
import SSEPyVerif.Model.PArray
import SSEPyVerif.Model.PDict
import SSEPyVerif.Model.PHash
import SSEPyVerif.Model.PySeq
import SSEPyVerif.Model.ServerIR
import SSEPyVerif.Model.Schemes.Chain
import SSEPyVerif.Model.Schemes.Common
import SSEPyVerif.Model.Schemes.DP17
import SSEPyVerif.Model.Schemes.Levels
import SSEPyVerif.Model.Schemes.Pi2Lev
import SSEPyVerif.Model.Schemes.PiPtr
import SSEPyVerif.Model.Schemes.SSE1
import SSEPyVerif.Model.Schemes.SSE2
import SSEPyVerif.Model.Schemes.Wire
import SSEPyVerif.Generated.ClientIR
import SSEPyVerif.Generated.ConfigFacts
import SSEPyVerif.Generated.MutationSites
import SSEPyVerif.Generated.ServerIR
import SSEPyVerif.Generated.WireLayout
import SSEPyVerif.Driver.BytesD
import SSEPyVerif.Driver.ClientD
import SSEPyVerif.Driver.CmdD
import SSEPyVerif.Driver.CryptoD
import SSEPyVerif.Driver.ManagerD
import SSEPyVerif.Driver.PersistD
import SSEPyVerif.Driver.Proto
import SSEPyVerif.Driver.SchemeD
import SSEPyVerif.Driver.ServerD
import SSEPyVerif.Driver.Tables
import SSEPyVerif.Proofs.Attr
import SSEPyVerif.Proofs.Basic
import SSEPyVerif.Proofs.Bits
import SSEPyVerif.Proofs.Bytes
import SSEPyVerif.Proofs.Cbc
import SSEPyVerif.Proofs.Client
import SSEPyVerif.Proofs.Except
import SSEPyVerif.Proofs.Feistel
import SSEPyVerif.Proofs.List
import SSEPyVerif.Proofs.Manager
import SSEPyVerif.Proofs.PArray
import SSEPyVerif.Proofs.PDict
import SSEPyVerif.Proofs.PHash
import SSEPyVerif.Proofs.PySeq
import SSEPyVerif.Proofs.Server
import SSEPyVerif.Proofs.Schemes.ANSS16
import SSEPyVerif.Proofs.Schemes.ANSS16Complete
import SSEPyVerif.Proofs.Schemes.CT14
import SSEPyVerif.Proofs.Schemes.CT14Complete
import SSEPyVerif.Proofs.Schemes.Cfg
import SSEPyVerif.Proofs.Schemes.Chain
import SSEPyVerif.Proofs.Schemes.ChainComplete
import SSEPyVerif.Proofs.Schemes.DP17
import SSEPyVerif.Proofs.Schemes.DP17Complete
import SSEPyVerif.Proofs.Schemes.DP17Index
import SSEPyVerif.Proofs.Schemes.DP17Room
import SSEPyVerif.Proofs.Schemes.DP17Search
import SSEPyVerif.Proofs.Schemes.Levels
import SSEPyVerif.Proofs.Schemes.Pi2Lev
import SSEPyVerif.Proofs.Schemes.Pi2LevComplete
import SSEPyVerif.Proofs.Schemes.PiPtr
import SSEPyVerif.Proofs.Schemes.PiPtrComplete
import SSEPyVerif.Proofs.Schemes.Place
import SSEPyVerif.Proofs.Schemes.Prims
import SSEPyVerif.Proofs.Schemes.Prp
import SSEPyVerif.Proofs.Schemes.SSE1
import SSEPyVerif.Proofs.Schemes.SSE1Complete
import SSEPyVerif.Proofs.Schemes.SSE1Prp
import SSEPyVerif.Proofs.Schemes.SSE1Setup
import SSEPyVerif.Proofs.Schemes.SSE2
import SSEPyVerif.Proofs.Schemes.SSE2Complete
import SSEPyVerif.Proofs.Schemes.Table
import SSEPyVerif.Proofs.Schemes.Tape
import SSEPyVerif.Props.C01
import SSEPyVerif.Props.C02
import SSEPyVerif.Props.C03
import SSEPyVerif.Props.C04
import SSEPyVerif.Props.C05
import SSEPyVerif.Props.C06
import SSEPyVerif.Props.C07
import SSEPyVerif.Props.C08
import SSEPyVerif.Props.C09
import SSEPyVerif.Props.C10
import SSEPyVerif.Props.C11
import SSEPyVerif.Props.C12
import SSEPyVerif.Props.C13
import SSEPyVerif.Props.C14
import SSEPyVerif.Props.C15
import SSEPyVerif.Props.C16
import SSEPyVerif.Props.C17
import SSEPyVerif.Props.C18
import SSEPyVerif.Props.C19
import SSEPyVerif.Props.C20
